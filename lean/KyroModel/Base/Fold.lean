/-
A fold invariant that may speak of the position reached: `P k` before the step on `l[k]`.  (For an
invariant that does not, core's `List.foldlRecOn` is the same statement.)  Core Lean only.
-/
namespace KyroModel

theorem foldl_indexed {σ α : Type} (P : Nat → σ → Prop) (f : σ → α → σ) :
    ∀ (l : List α) (s : σ), P 0 s → (∀ k s a, l[k]? = some a → P k s → P (k + 1) (f s a)) →
      P l.length (l.foldl f s)
  | [], _, h, _ => h
  | a :: l, s, h, hf =>
    foldl_indexed (fun k => P (k + 1)) f l (f s a) (hf 0 s a rfl h) fun k => hf (k + 1)

end KyroModel
