/-
Association lists keyed by `Nat` (document ids, global ids, tenant indices, file names).  Core Lean only.

These model the hash maps of the implementation (`HashMap<u64, _>`): lookup returns the
first binding, `aset` replaces, `aerase` removes every binding of the key.  Iteration order
of a hash map is never observable in the model's outputs (the driver sorts by key).
-/
namespace KyroModel

def alookup {α : Type} (k : Nat) : List (Nat × α) → Option α
  | [] => none
  | (k', v) :: rest => if k' = k then some v else alookup k rest

def aerase {α : Type} (k : Nat) (l : List (Nat × α)) : List (Nat × α) :=
  l.filter (fun p => p.1 ≠ k)

def aset {α : Type} (k : Nat) (v : α) (l : List (Nat × α)) : List (Nat × α) :=
  (k, v) :: aerase k l

def akeys {α : Type} (l : List (Nat × α)) : List Nat := l.map (·.1)

def amem {α : Type} (k : Nat) (l : List (Nat × α)) : Bool := (alookup k l).isSome

@[simp] theorem alookup_nil {α : Type} (k : Nat) : alookup k ([] : List (Nat × α)) = none := rfl

@[simp] theorem alookup_cons {α : Type} (k k' : Nat) (v : α) (l : List (Nat × α)) :
    alookup k ((k', v) :: l) = if k' = k then some v else alookup k l := rfl

theorem aerase_cons_eq {α : Type} (k : Nat) (v : α) (l : List (Nat × α)) :
    aerase k ((k, v) :: l) = aerase k l := by
  simp [aerase, List.filter]

theorem aerase_cons_ne {α : Type} {k k' : Nat} (v : α) (l : List (Nat × α)) (h : k' ≠ k) :
    aerase k ((k', v) :: l) = (k', v) :: aerase k l := by
  simp [aerase, List.filter, h]

theorem alookup_filter {α : Type} (p : Nat → Bool) (j : Nat) (l : List (Nat × α)) :
    alookup j (l.filter fun q => p q.1) = if p j then alookup j l else none := by
  induction l with
  | nil => simp
  | cons q rest ih =>
    obtain ⟨k, v⟩ := q
    by_cases hk : k = j
    · subst hk; cases hp : p k <;> simp [hp, ih]
    · cases hp : p k <;> simp [hp, hk, ih]

theorem alookup_aerase {α : Type} (k j : Nat) (l : List (Nat × α)) :
    alookup j (aerase k l) = if j = k then none else alookup j l := by
  unfold aerase
  rw [alookup_filter (fun i => decide (i ≠ k))]
  by_cases h : j = k <;> simp [h]

theorem alookup_aset {α : Type} (k j : Nat) (v : α) (l : List (Nat × α)) :
    alookup j (aset k v l) = if j = k then some v else alookup j l := by
  unfold aset
  rw [alookup_cons, alookup_aerase]
  by_cases h : j = k
  · simp [h]
  · simp [h, Ne.symm h]

theorem alookup_aerase_self {α : Type} {k : Nat} {l : List (Nat × α)} :
    alookup k (aerase k l) = none := by simp [alookup_aerase]

theorem alookup_aerase_ne {α : Type} {k j : Nat} {l : List (Nat × α)} (h : j ≠ k) :
    alookup j (aerase k l) = alookup j l := by simp [alookup_aerase, h]

@[simp] theorem alookup_aset_self {α : Type} {k : Nat} {v : α} {l : List (Nat × α)} :
    alookup k (aset k v l) = some v := by simp [alookup_aset]

theorem alookup_aset_ne {α : Type} {k j : Nat} {v : α} {l : List (Nat × α)} (h : j ≠ k) :
    alookup j (aset k v l) = alookup j l := by simp [alookup_aset, h]

/-- the per-thread slots of the step-level protocol models (`getL` / `setL`, `getS` / `setS`) and
    `RateLimiter.lookup` / `setTenant` are `alookup` / `aset` written with `find?` and `filter` -/
theorem find?_fst_eq_alookup {α : Type} (k : Nat) (l : List (Nat × α)) :
    (l.find? (·.1 == k)).map (·.2) = alookup k l := by
  induction l with
  | nil => rfl
  | cons p rest ih =>
    rw [List.find?_cons, alookup_cons]
    by_cases h : p.1 = k
    · rw [beq_iff_eq.mpr h, if_pos h]; rfl
    · rw [beq_false_of_ne h, if_neg h]; exact ih

theorem cons_filter_bne_eq_aset {α : Type} (k : Nat) (v : α) (l : List (Nat × α)) :
    (k, v) :: l.filter (·.1 != k) = aset k v l :=
  congrArg _ (List.filter_congr fun p _ => by by_cases h : p.1 = k <;> simp [h])

theorem length_aerase_le {α : Type} {k : Nat} {l : List (Nat × α)} :
    (aerase k l).length ≤ l.length := List.length_filter_le _ _

def AKeysNodup {α : Type} (l : List (Nat × α)) : Prop := (akeys l).Nodup

theorem akeys_aerase {α : Type} (k : Nat) (l : List (Nat × α)) :
    akeys (aerase k l) = (akeys l).filter (· ≠ k) := by
  simp only [akeys, aerase, List.filter_map]; rfl

theorem mem_akeys_iff {α : Type} (k : Nat) (l : List (Nat × α)) :
    k ∈ akeys l ↔ ∃ v, alookup k l = some v := by
  induction l with
  | nil => simp [akeys]
  | cons q rest ih =>
    obtain ⟨k', v'⟩ := q
    by_cases h : k' = k
    · simp [akeys, h]
    · simp only [akeys, List.map_cons, List.mem_cons, alookup_cons, h, if_false] at ih ⊢
      rw [← ih]; simp [Ne.symm h]

theorem mem_akeys_aerase_iff {α : Type} (k j : Nat) (l : List (Nat × α)) :
    j ∈ akeys (aerase k l) ↔ j ∈ akeys l ∧ j ≠ k := by
  rw [akeys_aerase]; simp

theorem mem_akeys_aset {α : Type} (k j : Nat) {v : α} (l : List (Nat × α)) :
    j ∈ akeys (aset k v l) ↔ j = k ∨ j ∈ akeys l := by
  simp only [mem_akeys_iff, alookup_aset]
  by_cases h : j = k <;> simp [h]

theorem mem_akeys_aset_of_mem {α : Type} {k j : Nat} {v : α} {l : List (Nat × α)} (h : k ∈ akeys l) :
    j ∈ akeys (aset k v l) ↔ j ∈ akeys l :=
  (mem_akeys_aset k j l).trans ⟨fun e => e.elim (· ▸ h) id, Or.inr⟩

theorem nodup_aerase {α : Type} (k : Nat) {l : List (Nat × α)} (h : AKeysNodup l) :
    AKeysNodup (aerase k l) := by
  unfold AKeysNodup at *
  rw [akeys_aerase]
  exact h.filter _

theorem not_mem_akeys_aerase {α : Type} (k : Nat) (l : List (Nat × α)) :
    k ∉ akeys (aerase k l) := fun h => ((mem_akeys_aerase_iff k k l).mp h).2 rfl

theorem nodup_aset {α : Type} (k : Nat) (v : α) (l : List (Nat × α)) (h : AKeysNodup l) :
    AKeysNodup (aset k v l) :=
  List.nodup_cons.mpr ⟨not_mem_akeys_aerase k l, nodup_aerase k h⟩

theorem alookup_none_of_not_mem {α : Type} (k : Nat) (l : List (Nat × α))
    (h : k ∉ akeys l) : alookup k l = none := by
  cases hl : alookup k l with
  | none => rfl
  | some v => exact absurd ((mem_akeys_iff k l).mpr ⟨v, hl⟩) h

theorem mem_akeys_of_alookup {α : Type} {k : Nat} {v : α} {l : List (Nat × α)}
    (h : alookup k l = some v) : k ∈ akeys l := (mem_akeys_iff k l).mpr ⟨v, h⟩

theorem not_mem_of_alookup_none {α : Type} {k : Nat} {l : List (Nat × α)}
    (h : alookup k l = none) : k ∉ akeys l := fun hm => by
  obtain ⟨v, hv⟩ := (mem_akeys_iff k l).mp hm
  rw [hv] at h; cases h

theorem aerase_length_lt_of_mem {α : Type} {k : Nat} {l : List (Nat × α)}
    (h : k ∈ akeys l) : (aerase k l).length < l.length := by
  obtain ⟨q, hq, rfl⟩ := List.mem_map.mp h
  exact List.length_filter_lt_length_iff_exists.mpr ⟨q, hq, by simp⟩

theorem length_aset_le {α : Type} {k : Nat} {v : α} {l : List (Nat × α)} :
    (aset k v l).length ≤ l.length + 1 := Nat.succ_le_succ length_aerase_le

theorem length_aset_of_mem {α : Type} {k : Nat} {v : α} {l : List (Nat × α)} (h : k ∈ akeys l) :
    (aset k v l).length ≤ l.length := aerase_length_lt_of_mem h

theorem foldl_aerase_sublist {α : Type} {ids : List Nat} {l : List (Nat × α)} :
    (ids.foldl (fun h id => aerase id h) l).Sublist l := by
  induction ids generalizing l with
  | nil => exact .refl _
  | cons i rest ih => exact ih.trans List.filter_sublist

theorem mem_akeys_foldl_aerase {α : Type} {ids : List Nat} {j : Nat} {l : List (Nat × α)} :
    j ∈ akeys (ids.foldl (fun h id => aerase id h) l) ↔ j ∈ akeys l ∧ j ∉ ids := by
  induction ids generalizing l with
  | nil => simp
  | cons i rest ih => rw [List.foldl_cons, ih, mem_akeys_aerase_iff]; simp [and_assoc]

theorem mem_of_alookup {α : Type} {k : Nat} {v : α} {l : List (Nat × α)} (h : alookup k l = some v) :
    (k, v) ∈ l := by
  induction l with
  | nil => cases h
  | cons p rest ih =>
    obtain ⟨k', v'⟩ := p
    rw [alookup_cons] at h
    split at h
    · cases h; subst_vars; exact List.mem_cons_self ..
    · exact List.mem_cons_of_mem _ (ih h)

theorem mem_aerase {α : Type} {k : Nat} {l : List (Nat × α)} {p : Nat × α} (h : p ∈ aerase k l) : p ∈ l :=
  (List.mem_filter.mp h).1

theorem aerase_of_not_mem {α : Type} {k : Nat} {l : List (Nat × α)} (h : k ∉ akeys l) : aerase k l = l :=
  List.filter_eq_self.mpr fun p hp => decide_eq_true fun e => h (List.mem_map.mpr ⟨p, hp, e⟩)

/-- with distinct keys, a list is its binding of `k` put in front of the rest -/
theorem perm_cons_aerase {α : Type} {l : List (Nat × α)} (hk : AKeysNodup l) {k : Nat} {v : α}
    (h : alookup k l = some v) : l.Perm ((k, v) :: aerase k l) := by
  induction l with
  | nil => cases h
  | cons q rest ih =>
    obtain ⟨k', v'⟩ := q
    obtain ⟨hnot, hrest⟩ := List.nodup_cons.mp hk
    by_cases e : k' = k
    · subst e
      rw [alookup_cons, if_pos rfl] at h
      cases h
      rw [aerase_cons_eq, aerase_of_not_mem hnot]
    · rw [alookup_cons, if_neg e] at h
      rw [aerase_cons_ne v' rest e]
      exact ((ih hrest h).cons _).trans (List.Perm.swap ..)

theorem alookup_iff_mem {α : Type} {l : List (Nat × α)} (hk : AKeysNodup l) (k : Nat) (v : α) :
    alookup k l = some v ↔ (k, v) ∈ l := by
  constructor
  · exact mem_of_alookup
  · intro hm
    obtain ⟨v', hv'⟩ := (mem_akeys_iff k l).mp (List.mem_map.mpr ⟨_, hm, rfl⟩)
    rcases List.mem_cons.mp ((perm_cons_aerase hk hv').mem_iff.mp hm) with e | hin
    · cases e; exact hv'
    · exact absurd rfl (of_decide_eq_true (List.mem_filter.mp hin).2)

/-- a list turned into an association list: a member is found under its key, provided the members that
    share its key share its value -/
theorem alookup_map {β α : Type} {f : β → Nat} {g : β → α} {l : List β} {t : β} (ht : t ∈ l)
    (h : ∀ a ∈ l, f a = f t → g a = g t) : alookup (f t) (l.map fun a => (f a, g a)) = some (g t) := by
  induction l with
  | nil => cases ht
  | cons a rest ih =>
    rw [List.map_cons, alookup_cons]
    by_cases e : f a = f t
    · rw [if_pos e, h a (List.mem_cons_self ..) e]
    · rw [if_neg e]
      refine ih ((List.mem_cons.mp ht).resolve_left fun e' => e (e' ▸ rfl)) fun b hb => h b (List.mem_cons_of_mem _ hb)

end KyroModel
