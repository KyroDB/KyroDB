/-
C02 — Restart is lossless: recovered state equals the live state before shutdown.

Model: `KyroModel/Persist/{Model,Ops}.lean` (logical file-system
actions of HnswBackend's WAL / snapshot / MANIFEST protocol), tied to
engine/src/{hnsw_backend,persistence}.rs by the `persist` correspondence run of `./check C02`:
same histories through the real backend under the FS shim and through the model, comparing
results, recognised action sequences, on-disk state listings and censuses.
-/
import KyroModel.Lemmas.PersistHistory

namespace KyroModel.C02

/-- **Restart is lossless, after any history.**  For every configuration (any snapshot
    interval incl. disabled, any rotation threshold, any index capacity) and every history of
    inserts, overwrites, deletes, batch deletes (duplicates included), metadata updates, manual
    and automatic snapshots, rotations, segment compaction, tombstone compaction and earlier
    restarts — of any length — a clean restart from the data directory succeeds in strict mode and
    the recovered documents are exactly the live ones (same ids, vector bits, metadata). -/
theorem C02_restart_lossless (cfg : PCfg) (ops : List POp) (hv : ∀ op ∈ ops, op.valid) :
    ∃ e' as, pRestart (pRun cfg ops).1.cfg (pRun cfg ops).1.nextName (pRun cfg ops).2 = .ok (e', as) ∧
      MapEq e'.store.docs (pRun cfg ops).1.store.docs := by
  obtain ⟨e', as, h1, h2, _, _⟩ := pRestart_spec _ _ (einv_pRun cfg hv)
  exact ⟨e', as, h1, h2⟩

/-- **…and the restarted engine is again in a state from which the same holds**: restarts may
    be placed anywhere in a history, any number of times (they are operations of `POp`), and the
    writes accepted after a restart are preserved by the next one. -/
theorem C02_history (cfg : PCfg) (ops : List POp) (hv : ∀ op ∈ ops, op.valid) :
    EInv (pRun cfg ops).1 (pRun cfg ops).2 :=
  einv_pRun cfg hv

/-- strict recovery of the directory left by any history yields the live documents -/
theorem C02_recover_eq_live (cfg : PCfg) (ops : List POp) (hv : ∀ op ∈ ops, op.valid) :
    ∃ r mx, recover (pRun cfg ops).2 = .ok (r, mx) ∧ MapEq r (pRun cfg ops).1.store.docs :=
  recover_of_Rec ⟨_, (einv_pRun cfg hv).dinv⟩

/-- **Deleted documents never reappear, overwritten versions never resurface**: what the live
    store holds after a successful insert / overwrite, delete or batch delete is the map update of
    that operation (so by the theorems above the same is true of the recovered store). -/
theorem C02_live_semantics (e : PEng) (d : Disk) (h : EInv e d) :
    (∀ id v m acc fl fd, acc ≠ Accept.index → (pInsert e d id v m acc fl fd).2.2 = .ok →
        (pInsert e d id v m acc fl fd).1.store.docs = aset id (v, m) e.store.docs) ∧
    (∀ id fl, (pDelete e d id fl).2.2 = .bool true →
        (pDelete e d id fl).1.store.docs = aerase id e.store.docs) ∧
    (∀ ids fl, (pBatchDelete e d ids fl).2.2 ≠ .err → (pBatchDelete e d ids fl).1.store.docs =
        eraseAll e.store.docs (ids.filter fun id => e.store.has id)) :=
  ⟨fun id v m _ fl fd hacc => (pInsert_shape e d id v m fl fd hacc).result.1,
   fun id fl => (pDelete_shape e d id fl).result.1,
   fun ids fl => (pBatchDelete_spec e d ids fl).1⟩

/-- **Any number of consecutive restarts.**  After every history, `n` restarts in a row — for
    every `n` — all succeed in strict mode and leave exactly the documents the live engine held
    before the first of them (each restart opens a new segment and rewrites the MANIFEST, so this
    is not the same statement as one restart), and the engine is again in a state from which every
    theorem of this file applies. -/
theorem C02_consecutive_restarts (cfg : PCfg) (ops : List POp) (hv : ∀ op ∈ ops, op.valid) (n : Nat) :
    MapEq (pRun cfg (ops ++ List.replicate n .restart)).1.store.docs (pRun cfg ops).1.store.docs ∧
    EInv (pRun cfg (ops ++ List.replicate n .restart)).1
         (pRun cfg (ops ++ List.replicate n .restart)).2 := by
  rw [pRun_append]
  refine List.foldlRecOn
    (motive := fun s : PEng × Disk => MapEq s.1.store.docs (pRun cfg ops).1.store.docs ∧ EInv s.1 s.2) _ _
    ⟨MapEq.refl _, einv_pRun cfg hv⟩ fun s hs op hop => ?_
  cases List.eq_of_mem_replicate hop
  obtain ⟨e', as, hr, hmap, hinv, _⟩ := pRestart_spec s.1 s.2 hs.2
  simp only [pStep, hr]
  exact ⟨hmap.trans hs.1, hinv⟩

/-! ### Witness: a history with overwrite, delete, rotation, automatic snapshot + compaction and
    a restart; the hypothesis is satisfiable and the recovered map is the expected one -/

def witnessOps : List POp := [.insert 1 [10] [] .yes 60 52, .insert 2 [20] [] .yes 60 52,
  .insert 1 [11] [] .yes 60 52, .delete 2 52, .restart, .insert 3 [30] [] .yes 60 52]

def recVecs (d : Disk) (ids : List Nat) : Option (List (Option (List Nat))) :=
  match recover d with
  | .ok (docs, _) => some (ids.map fun id => (alookup id docs).map (·.1))
  | .error _ => none

example : (∀ op ∈ witnessOps, op.valid) ∧
    recVecs (pRun ⟨3, 100, 10⟩ witnessOps).2 [1, 2, 3] = some [some [11], none, some [30]] := by
  refine ⟨?_, by decide⟩
  intro op hop
  simp only [witnessOps, List.mem_cons, List.not_mem_nil, or_false] at hop
  rcases hop with h | h | h | h | h | h <;> subst h <;> simp [POp.valid]

end KyroModel.C02
