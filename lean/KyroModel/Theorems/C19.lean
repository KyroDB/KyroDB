/-
C19 — Rate limits bound admitted traffic.

Property statements, and `runPre`, the pre-fix protocol that only the counterexample
`C19_prefix_refund_window` needs.  Model: `KyroModel/Server/RateLimit.lean` (exact arithmetic), tied to
engine/src/rate_limiter.rs by the `ratelimit` correspondence run of `./check C19`: the real
`RateLimiter` runs under a virtual monotonic clock (in-binary interposition of `clock_gettime`),
so model and implementation see the same timestamps.
* first use of a tenant under concurrency: `Theorems/C19FirstUse.lean` (`C19_first_use_one_bucket`,
  `C19_first_use_private_buckets_exceed_burst`).
-/
import KyroModel.Lemmas.RateLimit
import KyroModel.Theorems.C19FirstUse

namespace KyroModel.C19
open Bucket

/-- **Token-bucket bound, any call pattern.**  From any bucket state, over any sequence of
    `try_consume` calls, `admitted ≤ tokens_at_start + rate·elapsed ≤ burst + rate·elapsed` (in
    exact arithmetic; `G` units per token).  `hm` records what the code guarantees (a monotone
    clock); the proof does not use it: `refill` ignores a reading that goes back. -/
theorem C19_bucket_bound (G : Nat) (b : Bucket) (ts : List Nat) (hc : b.tokens ≤ b.cap * G)
    (hm : Monotone b.last ts) :
    (consumeAll G b ts).2 * G ≤ b.cap * G + ((consumeAll G b ts).1.last - b.last) * b.rate :=
  (consumeAll_rel ts hc).bound hc

/-- **…over any window of a longer history**: counting from the first call `t₁` of the window
    (whatever happened before — the state is any capped bucket), the calls at `t₁ ≤ t₂ ≤ … ≤ tₙ`
    admit at most `burst + rate·(tₙ − t₁)` requests. -/
theorem C19_window_bound (G : Nat) (b : Bucket) (t1 : Nat) (ts : List Nat)
    (hc : b.tokens ≤ b.cap * G) (hm : Monotone b.last (t1 :: ts)) :
    (consumeAll G b (t1 :: ts)).2 * G ≤
      b.cap * G + ((consumeAll G b (t1 :: ts)).1.last - t1) * b.rate := by
  -- the first call refills up to t₁; from there the conservation law applies with a full cap
  have hr := rel_refill t1 hc
  have h := (consumeAll_rel (t1 :: ts) hr.capped).bound hr.capped
  rw [refill_last G hm.1, hr.rate, hr.cap] at h
  simpa only [consumeAll, tryConsume_refill G b t1] using h

/-- **The global limit under every interleaving.**  The global bucket is only ever touched by
    `try_consume` under its mutex and is never refunded; the clock is read inside the critical
    section, so whatever the interleaving of callers the bucket sees one sequence of calls —
    `C19_bucket_bound` / `C19_window_bound` apply verbatim (`hm`, as there, is what the code
    guarantees and not what the bound needs). -/
theorem C19_global_all_schedules (G : Nat) (g : Bucket) (lockOrder : List Nat)
    (hc : g.tokens ≤ g.cap * G) (hm : Monotone g.last lockOrder) :
    (consumeAll G g lockOrder).2 * G ≤ g.cap * G + ((consumeAll G g lockOrder).1.last - g.last) * g.rate :=
  C19_bucket_bound G g lockOrder hc hm

/-- **A refusal by the global limit does not consume the tenant's budget**: after the refund
    the tenant bucket holds exactly what the refill alone would have given it. -/
theorem C19_refund_restores (G : Nat) (b : Bucket) (now : Nat) (hc : b.tokens ≤ b.cap * G)
    (hnow : b.last ≤ now) (hok : (b.tryConsume G now).2 = true) :
    ((b.tryConsume G now).1.refundOne G).tokens = (b.refill G now).tokens := by
  have hcap := (rel_refill now hc).capped
  unfold tryConsume at hok ⊢
  by_cases hge : (b.refill G now).tokens ≥ G
  · simp only [if_pos hge, refundOne]
    rw [Nat.sub_add_cancel hge]
    exact Nat.min_eq_right hcap
  · rw [if_neg hge] at hok; cases hok

/-- one `check_limit` call moves the tenant's bucket along the conservation law, counting the
    call only if it was admitted (a refunded consume counts 0) -/
theorem checkLimit_tenant_rel (G : Nat) (r : RateLimiter) (t qps cNew cT cG : Nat) (b : Bucket)
    (hb : r.lookup t = some b) (hc : b.tokens ≤ b.cap * G) (hnow : b.last ≤ cT) :
    ∃ b', (r.checkLimit G t qps cNew cT cG).1.lookup t = some b' ∧
      Rel G b b' (if (r.checkLimit G t qps cNew cT cG).2.1 then 1 else 0) := by
  obtain ⟨h1, h2⟩ := r.checkLimit_tenant G qps cNew cT cG hb
  exact ⟨_, h1, h2 ▸ rel_tenantCall cT _ hc⟩

/-- **A tenant with a token is not refused while the global budget has one.** -/
theorem C19_no_spurious_refusal (G : Nat) (r : RateLimiter) (t qps cNew cT cG : Nat)
    (b g : Bucket) (hb : r.lookup t = some b) (hg : r.global = some g)
    (ht : (b.refill G cT).tokens ≥ G) (hgt : (g.refill G cG).tokens ≥ G) :
    (r.checkLimit G t qps cNew cT cG).2.1 = true := by
  unfold RateLimiter.checkLimit
  simp [hb, hg, tryConsume_admits ht, tryConsume_admits hgt]

/-- **The budget comes back**: whatever the bucket's state (empty included), once the clock has
    advanced far enough for the refill to be worth one request (`(now − last) · rate ≥ G`, e.g. one
    second at any rate ≥ 1) the next call is admitted — the limiter throttles, it does not lock a
    tenant out.  (`cap ≥ 1`: the configuration validator refuses a zero rate.) -/
theorem C19_admitted_after_wait (G : Nat) (b : Bucket) (now : Nat) (hcap : 1 ≤ b.cap)
    (hlast : b.last < now) (hwait : G ≤ (now - b.last) * b.rate) :
    (b.tryConsume G now).2 = true := by
  have hcapG : G ≤ b.cap * G := Nat.le_mul_of_pos_left G hcap
  have ht : (b.refill G now).tokens ≥ G := by
    unfold refill
    rw [if_pos hlast]
    exact Nat.le_min.mpr ⟨hcapG, Nat.le_trans hwait (Nat.le_add_left _ _)⟩
  exact tryConsume_admits ht

/-- the hypotheses are satisfiable: an empty bucket of rate 5 with `G = 1000` units per token, 200
    time units later: (210 − 10) · 5 = 1000 -/
example : ((⟨5, 5, 0, 10⟩ : Bucket).tryConsume 1000 210).2 = true := by decide

/-- **The tenant bound under every interleaving** (after fix 78e4fe2).  The tenant bucket stays
    locked from the consume to the possible refund, and the clock is read inside, so whatever the
    interleaving of callers — and whatever the global bucket answers to each (`globalOk` arbitrary) —
    the bucket sees one sequence of atomic calls and `admitted ≤ burst + rate·elapsed` (`hm`
    records the monotone clock the code guarantees; the proof does not use it). -/
theorem C19_tenant_all_schedules (G : Nat) (b : Bucket) (evs : List (Nat × Bool))
    (hc : b.tokens ≤ b.cap * G) (hm : Monotone b.last (evs.map (·.1))) :
    (tenantCalls G b evs).2 * G ≤ b.cap * G + ((tenantCalls G b evs).1.last - b.last) * b.rate :=
  (tenantCalls_rel evs hc).bound hc

/-- the PRE-FIX protocol on one tenant bucket: a caller whose global attempt failed released the
    bucket between its consume (`stalled t`) and its refund (`refund`); other callers (`call t`,
    global willing) ran in between -/
inductive Ev | stalled (t : Nat) | call (t : Nat) | refund
deriving DecidableEq

def runPre (G : Nat) (b : Bucket) : List Ev → Bucket × List Nat      -- the clock readings of ADMITTED calls
  | [] => (b, [])
  | .stalled t :: rest => runPre G (b.tryConsume G t).1 rest
  | .call t :: rest =>
    ((runPre G (b.tryConsume G t).1 rest).1,
      (if (b.tryConsume G t).2 then [t] else []) ++ (runPre G (b.tryConsume G t).1 rest).2)
  | .refund :: rest => runPre G (b.refundOne G) rest

/-- **The defect the fix removes** (found by the scheduler exploration of `./check C19`): rate 1/s,
    burst 1; a stalled caller holds the bucket's token from t = 0, the bucket refills, a call at
    t = 1 s is admitted, the late refund arrives, a second call at t = 1 s is admitted too — two
    admissions in an interval of length zero where the bound is the burst, 1. -/
theorem C19_prefix_refund_window :
    (runPre 1000 ⟨1, 1, 1000, 0⟩ [.stalled 0, .call 1000, .refund, .call 1000]).2 = [1000, 1000] := by decide

example : (consumeAll 1000 (Bucket.new 1000 2 0) [0, 0, 0, 500, 500, 1000]).2 = 4 := by decide
example : Monotone 0 [0, 0, 0, 500, 500, 1000] := by simp [Monotone]

end KyroModel.C19
