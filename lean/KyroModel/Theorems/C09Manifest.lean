/-
C09, the MANIFEST half — rotation and snapshot commit are both read-modify-write operations on the
one MANIFEST file (`Manifest::load` … `manifest.save`), possibly from different threads.

Step-level model: an update is two steps, `load i` (thread `i` reads the current MANIFEST into its
local copy) and `save i` (it writes its modified copy back).  A rotation appends its new segment to
the copy's segment list; a snapshot commit sets the snapshot pointer and drops the segments the
snapshot covers.
-/
import KyroModel.Base.Assoc

namespace KyroModel.C09.Man

structure Man where
  snap : Option Nat
  segs : List Nat
  deriving DecidableEq, Repr

inductive Upd
  | rotate (newSeg : Nat)                      -- append the freshly created segment
  | commit (snap : Nat) (covered : List Nat)   -- point to the new snapshot, drop covered segments
  deriving DecidableEq, Repr

def Upd.apply (m : Man) : Upd → Man
  | .rotate n => { m with segs := m.segs ++ [n] }
  | .commit s cov => { snap := some s, segs := m.segs.filter fun x => !cov.contains x }

inductive Step
  | load (i : Nat)
  | save (i : Nat) (u : Upd)
  deriving DecidableEq, Repr

/-- per thread: the copy it loaded -/
abbrev Locals := List (Nat × Man)

def getL (l : Locals) (i : Nat) (dflt : Man) : Man := ((l.find? (·.1 == i)).map (·.2)).getD dflt
def setL (l : Locals) (i : Nat) (m : Man) : Locals := (i, m) :: l.filter (·.1 != i)

def step (file : Man) (l : Locals) : Step → Man × Locals
  | .load i => (file, setL l i file)
  | .save i u => (u.apply (getL l i file), l)

def run (file : Man) (l : Locals) : List Step → Man
  | [] => file
  | x :: xs => run (step file l x).1 (step file l x).2 xs

/-- **Load outside the lock** (seeded change C09-3): rotation 0 loads, the snapshot commit of thread
    1 runs whole (new snapshot 9, segments 1 and 2 covered and unlinked), rotation 0 saves its stale
    copy + the new segment: the commit is gone — old snapshot pointer, unlinked segments listed
    (strict recovery then refuses: what `./check C09` finds on that change, with the schedule). -/
theorem C09_manifest_rmw_outside_the_lock_loses_the_commit :
    run ⟨some 5, [1, 2, 3]⟩ [] [.load 0, .load 1, .save 1 (.commit 9 [1, 2]), .save 0 (.rotate 4)]
      = ⟨some 5, [1, 2, 3, 4]⟩ := by decide

/-- the discipline `manifest_lock` enforces: every update's load and save are adjacent -/
inductive Locked : List Step → List Upd → Prop
  | nil : Locked [] []
  | upd (i : Nat) (u : Upd) {rest : List Step} {us : List Upd} :
      Locked rest us → Locked (.load i :: .save i u :: rest) (u :: us)

theorem getL_setL (l : Locals) (i : Nat) (m dflt : Man) : getL (setL l i m) i dflt = m := by
  unfold getL setL
  rw [cons_filter_bne_eq_aset, find?_fst_eq_alookup, alookup_aset_self]
  rfl

/-- **Under the lock every schedule is sequential**: the final MANIFEST is the fold of the updates
    in the order the lock was taken — any number of rotations and snapshot commits by any
    threads. -/
theorem C09_manifest_rmw_under_the_lock_is_sequential (sched : List Step) (us : List Upd)
    (h : Locked sched us) : ∀ (file : Man) (l : Locals), run file l sched = us.foldl Upd.apply file := by
  induction h with
  | nil => intro file l; rfl
  | upd i u _ ih =>
    intro file l
    simp only [run, step, getL_setL, List.foldl_cons]
    exact ih _ _

/-- the same two updates under the lock, in either order, keep both effects -/
example :
    run ⟨some 5, [1, 2, 3]⟩ [] [.load 1, .save 1 (.commit 9 [1, 2]), .load 0, .save 0 (.rotate 4)] = ⟨some 9, [3, 4]⟩ ∧
    run ⟨some 5, [1, 2, 3]⟩ [] [.load 0, .save 0 (.rotate 4), .load 1, .save 1 (.commit 9 [1, 2])] = ⟨some 9, [3, 4]⟩ := by
  decide

end KyroModel.C09.Man
