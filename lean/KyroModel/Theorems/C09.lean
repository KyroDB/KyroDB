/-
C09 — Snapshots and compaction racing with writers lose and duplicate nothing.

The step-level model of writer vs snapshotter and the protocol argument about it.  The races
themselves are explored on the REAL code by the controlled scheduler (`./check C09`: after every
explored schedule of writers vs snapshotter — automatic snapshots, tiny rotation thresholds — the data directory is recovered and compared with the final
live collection).  Proved here is the protocol argument:

* the step-level model below splits a write into its three steps (allocate the sequence number,
  append to the log, apply in memory) and a snapshot into its atomic read of
  (last sequence number, store) followed by compaction;
* `C09_unprotected_snapshot_loses_a_write`: WITHOUT the snapshot lock, a snapshot read that falls
  between a writer's sequence allocation and its in-memory apply records a sequence number that
  covers the write while the captured store lacks it; after compaction the write is in neither —
  recovery loses an acknowledged write (witness, by evaluation);
* `C09_protected_is_sequential`: WITH the lock discipline (the three writer steps are one
  critical section, the snapshot read never falls inside one — what `snapshot_lock` shared /
  exclusive and `write_gate` enforce), every schedule is a sequence of whole operations, i.e. a
  history of the file's sequential step model (`SeqOp`, `seqStep`; nothing here links it to `POp`);
* `C09_protected_schedules_lose_nothing`: in the step model every protected schedule from the
  empty state recovers exactly its live store;
* `C09_sequential_histories_are_lossless`: for histories of the full persistence model, restart yields exactly the live collection
  (C02's theorem, any history of any length, automatic snapshots, rotation and compaction
  included).  In that model a stale snapshot never replaces a newer one because the branch is
  dead: under the engine invariant the MANIFEST's snapshot sequence is below the next sequence
  number, so `snapshot` always takes its commit branch (`snapshot_spec`).
* the MANIFEST as a cell shared by rotation and snapshot commit: `Theorems/C09Manifest.lean`
  (`C09_manifest_rmw_under_the_lock_is_sequential`, `C09_manifest_rmw_outside_the_lock_loses_the_commit`).
-/
import KyroModel.Theorems.C02
import KyroModel.Theorems.C09Manifest

namespace KyroModel.C09

/-! ### step-level model of writer vs snapshotter -/

structure St where
  nextSeq : Nat
  wal : List (Nat × Nat)          -- (seq, doc id inserted)
  store : List Nat                -- live doc ids
  snap : Option (Nat × List Nat)  -- (last seq, docs) of the published snapshot
deriving DecidableEq, Repr

inductive Step
  | alloc (w : Nat)               -- writer w takes the next sequence number
  | append (w : Nat) (doc : Nat)  -- writer w appends (its seq, doc) to the log
  | apply (w : Nat) (doc : Nat)   -- writer w applies in memory (then acknowledges)
  | snapshot                      -- read (nextSeq - 1, store), publish, compact covered entries
deriving DecidableEq, Repr

/-- every sequence number allocated so far with its writer, newest first; nothing is ever removed,
    `append` reads its writer's newest -/
abbrev Held := List (Nat × Nat)

def step (s : St) (held : Held) : Step → St × Held
  | .alloc w => ({ s with nextSeq := s.nextSeq + 1 }, (w, s.nextSeq) :: held)
  | .append w doc =>
    match held.find? (·.1 == w) with
    | some (_, sq) => ({ s with wal := s.wal ++ [(sq, doc)] }, held)
    | none => (s, held)
  | .apply _ doc => ({ s with store := s.store ++ [doc] }, held)
  | .snapshot =>
    let last := s.nextSeq - 1
    ({ s with snap := some (last, s.store), wal := s.wal.filter (fun e => last < e.1) }, held)

def run (s : St) (held : Held) : List Step → St
  | [] => s
  | x :: xs => run (step s held x).1 (step s held x).2 xs

/-- strict recovery: snapshot docs, then the log entries the snapshot does not cover -/
def recoverSt (s : St) : List Nat :=
  match s.snap with
  | none => s.wal.map (·.2)
  | some (last, docs) => docs ++ (s.wal.filter (fun e => last < e.1)).map (·.2)

def init : St := ⟨1, [], [], none⟩

/-- **Without the lock**: the snapshot read falls between writer 0's sequence allocation and its
    apply.  Document 7 is acknowledged and live, but a restart does not have it. -/
theorem C09_unprotected_snapshot_loses_a_write :
    let s := run init [] [.alloc 0, .snapshot, .append 0 7, .apply 0 7]
    s.store = [7] ∧ recoverSt s = [] := by decide

/-- a schedule respects the discipline when it is a concatenation of whole operations -/
inductive Protected : List Step → Prop
  | nil : Protected []
  | write (w doc : Nat) (rest : List Step) : Protected rest →
      Protected (.alloc w :: .append w doc :: .apply w doc :: rest)
  | snap (rest : List Step) : Protected rest → Protected (.snapshot :: rest)

/-- the sequential operations a protected schedule consists of -/
inductive SeqOp | write (doc : Nat) | snapshot
deriving DecidableEq, Repr

def seqStep (s : St) : SeqOp → St
  | .write doc => { s with nextSeq := s.nextSeq + 1, wal := s.wal ++ [(s.nextSeq, doc)], store := s.store ++ [doc] }
  | .snapshot =>
    { s with snap := some (s.nextSeq - 1, s.store), wal := s.wal.filter (fun e => s.nextSeq - 1 < e.1) }

/-- **With the lock discipline every schedule is a sequential history**: there is a list of whole
    operations with the same final state — whatever was held by other writers before. -/
theorem C09_protected_is_sequential (sched : List Step) (h : Protected sched) :
    ∀ (s : St) (held : Held), ∃ ops : List SeqOp, run s held sched = ops.foldl seqStep s := by
  induction h with
  | nil => intro s held; exact ⟨[], rfl⟩
  | write w doc rest _ ih =>
    intro s held
    obtain ⟨ops, hops⟩ := ih (seqStep s (.write doc)) ((w, s.nextSeq) :: held)
    -- the writer finds the sequence number it has just allocated
    have hf : ((w, s.nextSeq) :: held).find? (·.1 == w) = some (w, s.nextSeq) :=
      List.find?_cons_of_pos (beq_self_eq_true w)
    refine ⟨.write doc :: ops, ?_⟩
    simp only [run, step, hf]
    exact hops
  | snap rest _ ih =>
    intro s held
    obtain ⟨ops, hops⟩ := ih (seqStep s .snapshot) held
    exact ⟨.snapshot :: ops, hops⟩

/-- so every protected schedule from the empty directory is lossless -/
theorem C09_protected_schedules_lose_nothing (sched : List Step) (h : Protected sched) :
    recoverSt (run init [] sched) = (run init [] sched).store := by
  obtain ⟨ops, hops⟩ := C09_protected_is_sequential sched h init []
  rw [hops]
  -- invariant of sequential histories: (1) recovery yields the store; (2) a snapshot taken now
  -- would cover the whole log; (3) the published snapshot's sequence number (0 when there is none)
  -- lies below the next one to be allocated
  refine (List.foldlRecOn (motive := fun s : St => recoverSt s = s.store ∧
    (∀ e ∈ s.wal, e.1 ≤ s.nextSeq - 1) ∧ s.snap.elim 0 (·.1) < s.nextSeq) ops seqStep (b := init)
    ⟨rfl, nofun, Nat.one_pos⟩ fun s ⟨h1, h2, h3⟩ op _ => ?_).1
  cases op with
  | write doc =>
    refine ⟨?_, fun e he => ?_, Nat.lt_succ_of_lt h3⟩
    · simp only [seqStep, recoverSt] at h1 ⊢
      cases hs : s.snap with
      | none => simp only [hs] at h1 ⊢; rw [List.map_append, h1]; rfl
      | some p =>
        simp only [hs, Option.elim] at h1 h3 ⊢
        rw [List.filter_append, List.map_append, ← List.append_assoc, h1]
        simp [h3]
    · rcases List.mem_append.mp he with he | he
      · exact Nat.le_trans (h2 e he) (Nat.sub_le _ _)
      · cases List.mem_singleton.mp he; exact Nat.le_refl _
  | snapshot =>
    have hnone : s.wal.filter (fun e => s.nextSeq - 1 < e.1) = [] :=
      List.filter_eq_nil_iff.mpr fun e he hlt => Nat.not_lt.mpr (h2 e he) (of_decide_eq_true hlt)
    refine ⟨?_, fun e he => h2 e (List.mem_filter.mp he).1, Nat.sub_one_lt_of_lt h3⟩
    simp [seqStep, recoverSt, hnone]

/-- **…and in the full persistence model** (automatic snapshots, rotation, compaction, tombstone
    compaction, restarts; any history of any length): restart yields exactly the live collection. -/
theorem C09_sequential_histories_are_lossless (cfg : PCfg) (ops : List POp)
    (hv : ∀ op ∈ ops, op.valid) :
    ∃ e' as, pRestart (pRun cfg ops).1.cfg (pRun cfg ops).1.nextName (pRun cfg ops).2 = .ok (e', as) ∧
      MapEq e'.store.docs (pRun cfg ops).1.store.docs :=
  C02.C02_restart_lossless cfg ops hv

end KyroModel.C09
