/-
C07 — The query-result cache never serves stale or foreign results.

The predicate `Mentions` and the theorems listed below; the lemmas are in `Lemmas/QCache.lean`.
Model: `Tiered/QueryCache.lean` (exactly the cache the `qcache` correspondence run of
`./check C07` / `./check C20` validates against `QueryHashCache`).

* `C07_served_entry`: whatever `get` answers is a prefix of an entry stored under the SAME scope
  with a requested k AT LEAST the wanted one (never a foreign scope, never a narrower entry
  widened);
* `C07_deleted_doc_not_served`, `C07_only_store_adds`, `C07_unmentioned_stays`: after
  `invalidate_doc d` no entry mentions `d`, and nothing but a later `store` can make the cache
  mention it again, over any store-free history — so a deleted or overwritten document is not
  served from an older result;
* `C07_kept_entry_is_unaffected`: an entry that survives `invalidate_for_insert` is full and the
  exact decision `mustDrop` for it was "keep"; `C07_keep_means_strictly_outside`: "keep" means a
  finite boundary with the inserted vector strictly outside it.  The implementation's pre-filter
  may only short-cut towards "keep": `C07_prefilter_sound_over_reals` (every dimension, by
  `PrefixBound.dot_le_prefix_add_tail` / `l2_prefix_le_full`);
* `C07_stale_store_refused`, `C07_invalidation_advances_generation`,
  `C07_result_computed_before_write_is_not_stored`: a result carrying the generation read before
  a write is refused once that write's invalidation ran, after any number of further operations;
* schedule half at the level of the engine's steps: `Theorems/C07Conc.lean`
  (`C07_write_then_invalidate_is_fresh`: any number of writers and cacheable searches, any
  interleaving; `C07_invalidate_then_write_goes_stale`: the reversed order);
* `C07_clear_empties`: metadata updates, bulk loads and drift repairs (`clear`) leave nothing.
-/
import KyroModel.Lemmas.QCache
import KyroModel.Theorems.C07Conc
import KyroModel.Lemmas.PrefixBound

namespace KyroModel.C07
open QCache

/-- **What is served**: a prefix of a stored entry of the same scope whose requested k covers the
    wanted one. -/
theorem C07_served_entry (c : QCache) (k : QKey) (want : Nat) (order : List (List Nat))
    (res : List (Nat × Nat)) (h : (c.get k want order).2 = some res) :
    ∃ e ∈ c.entries, e.key.1 = k.1 ∧ want ≤ e.reqK ∧ res = e.res.take want := by
  rcases get_spec c k want order with hg | ⟨e, he, hs, hw, hg⟩ <;> rw [hg] at h
  · cases h
  · exact ⟨e, he, hs, hw, (Option.some.inj h).symm⟩

/-- some cached result list contains document `d` -/
def Mentions (c : QCache) (d : Nat) : Prop := ∃ e ∈ c.entries, d ∈ e.res.map (·.1)

/-- **A deleted / overwritten document is dropped from the cache**: after `invalidate_doc d` no
    entry mentions `d`. -/
theorem C07_deleted_doc_not_served (c : QCache) (d : Nat) : ¬ Mentions (c.invalidateDoc d).1 d := by
  rintro ⟨e, he, hd⟩
  obtain ⟨x, hx, hxd⟩ := List.mem_map.mp hd
  have hp := (List.mem_filter.mp he).2
  rw [Bool.not_eq_true', List.any_eq_false] at hp
  exact hp x hx (beq_iff_eq.mpr hxd)

/-- every operation except `store` only removes or reorders entries -/
theorem C07_only_store_adds (c : QCache) (op : QOp) (hop : ∀ k q r res g, op ≠ .store k q r res g)
    (e : QEntry) (he : e ∈ (c.applyOp op).entries) : e ∈ c.entries := by
  cases op with
  | store k q r res g => exact (hop k q r res g rfl).elim
  | get k w o =>
    rcases get_spec c k w o with hg | ⟨_, _, _, _, hg⟩ <;> simp only [QCache.applyOp, hg] at he
    · exact he
    · exact mem_touch he
  | invalidateDoc d => exact (List.mem_filter.mp he).1
  | invalidateForInsert hit => exact (List.mem_filter.mp he).1
  | clear => cases he

/-- so a document no entry mentions stays unmentioned through any store-free history -/
theorem C07_unmentioned_stays (c : QCache) (d : Nat) (ops : List QOp)
    (hops : ∀ op ∈ ops, ∀ k q r res g, op ≠ .store k q r res g) (h : ¬ Mentions c d) :
    ¬ Mentions (c.applyOps ops) d :=
  List.foldlRecOn (motive := fun c' : QCache => ¬ Mentions c' d) ops QCache.applyOp h
    fun c' h' op ho hm =>
      h' (hm.imp fun e => And.imp_left (C07_only_store_adds c' op (hops op ho) e))

/-- **An entry that survives an insert is unaffected by it**: it is full, and the exact decision
    for the distance between its query and the inserted vector is "keep" (what that means:
    `C07_keep_means_strictly_outside`). -/
theorem C07_kept_entry_is_unaffected (c : QCache) (dists : List ((Nat × List Nat) × Option Nat))
    (e : QEntry) (he : e ∈ (c.invalidateForInsert (c.hitKeys dists)).1.entries)
    (hk : (keys c.entries).Nodup) :
    e.reqK ≤ e.res.length ∧
    ∃ d, dists.find? (·.1 == (e.key.1, e.q)) = some ((e.key.1, e.q), d) ∧ mustDrop e d = false := by
  simp only [QCache.invalidateForInsert, List.mem_filter, Bool.not_eq_eq_eq_not, Bool.not_true,
    Bool.or_eq_false_iff, decide_eq_false_iff_not, Nat.not_lt, List.contains_eq_mem] at he
  obtain ⟨hmem, hfull, hnot⟩ := he
  refine ⟨hfull, ?_⟩
  -- `e` is in the cache and its key is not hit, so the filter of `hitKeys` rejected `e` itself
  have hv := fun hv => hnot (List.mem_map_of_mem (f := (·.key)) (List.mem_filter.mpr ⟨hmem, hv⟩))
  split at hv
  · rename_i pk d hf
    have hpk : pk = (e.key.1, e.q) := by simpa only [beq_iff_eq] using List.find?_some hf
    exact ⟨d, by rw [hf, hpk], Bool.eq_false_iff.mpr hv⟩
  · exact absurd rfl hv

/-- what "keep" means: not short, dimensions agree, finite boundary, the new vector strictly
    farther than the worst cached result -/
theorem C07_keep_means_strictly_outside (e : QEntry) (d : Option Nat) (h : mustDrop e d = false) :
    e.reqK ≤ e.res.length ∧ ∃ db w, d = some db ∧ worstKey e.res = some w ∧ w < f32Key db := by
  unfold mustDrop at h
  split at h
  · cases h
  · split at h
    · cases h
    · split at h
      · cases h
      · rename_i hs _ db _ w hw
        exact ⟨Nat.not_lt.mp hs, db, w, rfl, hw,
          Nat.lt_of_not_le (of_decide_eq_false (Bool.or_eq_false_iff.mp h).2)⟩

/-- **A result computed before a write is not stored after it.** -/
theorem C07_stale_store_refused (c : QCache) (k : QKey) (q : List Nat) (r : Nat)
    (res : List (Nat × Nat)) (g : Nat) (hg : c.gen ≠ g) : c.store k q r res (some g) = (c, false) :=
  if_pos (by simpa using Ne.symm hg)

theorem C07_invalidation_advances_generation (c : QCache) (ops : List QOp)
    (h : ∃ op ∈ ops, QOp.invalidates op = true) : c.gen < (c.applyOps ops).gen := by
  rw [gen_applyOps]
  exact Nat.lt_add_of_pos_right (List.countP_pos_iff.mpr h)

/-- the generation a search read before computing its result; any history containing an
    invalidation (a write) in between; the conditional store is refused and changes nothing -/
theorem C07_result_computed_before_write_is_not_stored (c : QCache) (ops : List QOp)
    (h : ∃ op ∈ ops, QOp.invalidates op = true) (k : QKey) (q : List Nat) (r : Nat)
    (res : List (Nat × Nat)) :
    (c.applyOps ops).store k q r res (some c.gen) = (c.applyOps ops, false) :=
  C07_stale_store_refused _ k q r res c.gen
    (Nat.ne_of_gt (C07_invalidation_advances_generation c ops h))

theorem C07_clear_empties (c : QCache) : c.clear.entries = [] := rfl

/-- the pre-filter's bounds dominate the exact quantities (reals, every dimension and prefix) -/
theorem C07_prefilter_sound_over_reals (n p : ℕ) (q v : Fin n → ℝ) :
    (∀ threshold : ℝ,
      (∑ i ∈ Finset.univ.filter (fun i : Fin n => (i : ℕ) < p), q i * v i) +
        √(∑ i ∈ Finset.univ.filter (fun i : Fin n => ¬ (i : ℕ) < p), q i ^ 2) *
        √(∑ i ∈ Finset.univ.filter (fun i : Fin n => ¬ (i : ℕ) < p), v i ^ 2) < threshold →
      ∑ i, q i * v i < threshold) ∧
    (∀ radiusSq : ℝ,
      radiusSq < ∑ i ∈ Finset.univ.filter (fun i : Fin n => (i : ℕ) < p), (q i - v i) ^ 2 →
      radiusSq < ∑ i, (q i - v i) ^ 2) :=
  ⟨fun _ h => lt_of_le_of_lt (PrefixBound.dot_le_prefix_add_tail p q v) h,
   fun _ h => lt_of_lt_of_le h (PrefixBound.l2_prefix_le_full p q v)⟩

/-- non-vacuity: a two-entry cache, an insert that hits exactly one of them -/
example :
    let c : QCache := ⟨[⟨(0, [1]), [10], 1, [(7, 1065353216)]⟩, ⟨(0, [2]), [20], 1, [(8, 1073741824)]⟩], 4, 0⟩
    ((c.invalidateForInsert (c.hitKeys [((0, [10]), some 1069547520), ((0, [20]), some 1069547520)])).1.entries.map (·.key))
      = [(0, [1])] := by decide

end KyroModel.C07
