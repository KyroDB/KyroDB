/-
C19, first use of a tenant — concurrent first requests of one tenant at one instant (no refill).

A caller that finds no bucket in the read-locked fast path goes to the slow path under the write
lock.  `orInsert = true`: the slow path creates the bucket only if it is STILL absent
(`entry().or_insert_with`, the current code) and consumes from the one bucket of the map;
`orInsert = false`: it builds its own full bucket, consumes from it and stores it over whatever is
there (seeded change C19-3).  Steps of different callers interleave freely.

* `C19_first_use_one_bucket`: with `orInsert`, after ANY interleaving of any number of callers the
  admissions never exceed the burst (admitted + tokens left = burst once the bucket exists);
* `C19_first_use_private_buckets_exceed_burst`: without it, two racing first callers of a burst-1
  tenant are both admitted.

Tie: `./check C19` explores concurrent first requests on the real `RateLimiter` under the
controlled scheduler and a frozen virtual clock (window oracle).
-/

namespace KyroModel.C19.FirstUse

structure St where
  burst : Nat
  orInsert : Bool
  bucket : Option Nat := none     -- tokens left in the bucket stored in the map
  admitted : Nat := 0
  deriving Repr

/-- `step` ignores the caller index, so every list of steps is a schedule: an over-approximation of
    the interleavings of callers that each do `fast` then, if needed, `slow` -/
inductive Step
  | fast (i : Nat)      -- bucket present: consume from it; absent: nothing (the caller goes on to `slow`)
  | slow (i : Nat)      -- under the write lock
  deriving DecidableEq, Repr

def consume (s : St) (tokens : Nat) : St :=
  if 0 < tokens then { s with bucket := some (tokens - 1), admitted := s.admitted + 1 }
  else { s with bucket := some tokens }

def step (s : St) : Step → St
  | .fast _ =>
    match s.bucket with
    | some t => consume s t
    | none => s
  | .slow _ =>
    if s.orInsert then
      match s.bucket with
      | some t => consume s t
      | none => consume s s.burst
    else consume s s.burst        -- a private full bucket, stored over the map entry

def run (s : St) (steps : List Step) : St := steps.foldl step s

/-- the tokens a consume finds: the bucket's, or a full burst while there is no bucket -/
def avail (s : St) : Nat := s.bucket.getD s.burst

/-- with `or_insert`, admissions and available tokens add up to the burst `B` -/
def Good (B : Nat) (s : St) : Prop := s.orInsert = true ∧ s.burst = B ∧ s.admitted + avail s = B

/-- every step leaves the state alone or consumes what is available, which keeps the sum -/
theorem good_step {B : Nat} {s : St} (h : Good B s) (x : Step) : Good B (step s x) := by
  have hc : Good B (consume s (avail s)) := by
    obtain ⟨ho, hB, hi⟩ := h
    unfold consume
    split
    · exact ⟨ho, hB, show s.admitted + 1 + (avail s - 1) = B by
        rw [Nat.add_assoc, Nat.add_sub_cancel' ‹0 < avail s›]; exact hi⟩
    · exact ⟨ho, hB, hi⟩
  unfold avail at hc
  cases x <;> simp only [step, h.1, if_true] <;> cases hb : s.bucket <;> rw [hb] at hc
  · exact h
  all_goals exact hc

/-- **One bucket per tenant**: whatever the interleaving of first requests, never more admissions
    than the burst. -/
theorem C19_first_use_one_bucket (burst : Nat) (steps : List Step) :
    (run { burst := burst, orInsert := true } steps).admitted ≤ burst :=
  -- `.2.2` of `Good` is the law `admitted + avail = burst`
  Nat.le.intro (List.foldlRecOn (motive := Good burst) steps step (b := { burst := burst, orInsert := true })
    ⟨rfl, rfl, Nat.zero_add _⟩ fun _ h x _ => good_step h x).2.2

/-- **Private buckets** (seeded change C19-3): two first callers of a burst-1 tenant both miss the
    fast path, both build a full bucket: two admissions at one instant. -/
theorem C19_first_use_private_buckets_exceed_burst :
    (run { burst := 1, orInsert := false } [.fast 0, .fast 1, .slow 0, .slow 1]).admitted = 2 := by decide

example : (run { burst := 1, orInsert := true } [.fast 0, .fast 1, .slow 0, .slow 1]).admitted = 1 := by decide

end KyroModel.C19.FirstUse
