/-
C20 — Caches and the recent-write tier stay within their configured bounds.

The bounds as theorems about every operation sequence, with witnesses that they are tight; the
lemmas are in `KyroModel/Lemmas/{Cache,OpInvariants,QCache}`.
Model: `KyroModel/Tiered/Model.lean` (tied to engine/src/{vector_cache,lru_index,hot_tier,
tiered_engine,cache_strategy}.rs by the `tiered` correspondence run of `./check C20`) and
`KyroModel/Tiered/QueryCache.lean` (tied to query_hash_cache.rs by the `qcache` run).
-/
import KyroModel.Lemmas.Cache
import KyroModel.Lemmas.OpInvariants
import KyroModel.Lemmas.QCache

namespace KyroModel.C20

section
variable {D : Type} [DecidableEq D] (digest : Vec → D)

/-- **Document cache bound, every reachable state.**  For every strategy kind, capacity and
    *every* operation sequence — including adversarial plants into the cache and the hot tier,
    every admission decision, every acceptance verdict — the document cache holds at most
    `cap` entries per `VectorCache` (`cap = 0` behaves as `cap = 1`).  The A/B splitter owns
    two caches of `cap` entries each (see `C20_ab_splitter_holds_twice_cap`). -/
theorem C20_doc_cache_bound (kind : StratKind) (cap hard soft dim : Nat) (ops : List (TOp D)) :
    (applyOps digest (TState.init D kind cap hard soft dim) ops).l1a.size
      ≤ (if kind == .ab then 2 * max cap 1 else max cap 1) := by
  rw [Nat.two_mul]
  exact L1a.size_le_of_inv
    (closed_applyOps digest L1a.closed_inv ops (L1a.inv_init kind cap hard soft dim))
    (closed_applyOps digest (L1a.closed_caps (cap, cap, kind)) ops rfl)

theorem C20_doc_cache_bound_single (kind : StratKind) (hk : kind ≠ .ab) (cap hard soft dim : Nat)
    (hcap : 1 ≤ cap) (ops : List (TOp D)) :
    (applyOps digest (TState.init D kind cap hard soft dim) ops).l1a.size ≤ cap := by
  have := C20_doc_cache_bound digest kind cap hard soft dim ops
  rwa [if_neg fun h => hk (eq_of_beq h), Nat.max_eq_left hcap] at this

/-- **Recent-write tier bound.**  For every sequence of engine operations (reads, writes,
    drains, audits, cache plants — everything except a direct plant into the hot tier, which
    bypasses the engine), with `hard ≥ 1`, the hot tier holds at most `hard` documents after
    every operation; in particular whenever an `insert` returns, successfully or not. -/
theorem C20_hot_tier_bound (kind : StratKind) (cap hard soft dim : Nat) (hhard : 1 ≤ hard)
    (ops : List (TOp D)) (hops : ∀ op ∈ ops, op.isEngineOp = true) :
    (applyOps digest (TState.init D kind cap hard soft dim) ops).hot.length ≤ hard :=
  (applyOps_hot_bound digest (TState.init D kind cap hard soft dim) hops hhard (Nat.zero_le _)).2

/-- **No double counting.**  In every reachable state each `VectorCache` holds at most one entry
    per document id, so the bounds above count distinct cached documents (an implementation that
    kept within `cap` entries by letting one id occupy several slots, or that exceeded `cap`
    distinct documents by some other accounting, is excluded by this together with the bound). -/
theorem C20_doc_cache_ids_unique (kind : StratKind) (cap hard soft dim : Nat) (ops : List (TOp D)) :
    AKeysNodup (applyOps digest (TState.init D kind cap hard soft dim) ops).l1a.a.entries ∧
    AKeysNodup (applyOps digest (TState.init D kind cap hard soft dim) ops).l1a.b.entries := by
  have hinv := closed_applyOps digest L1a.closed_inv ops (L1a.inv_init kind cap hard soft dim)
  exact ⟨hinv.1.1, hinv.2.1⟩

end

/-- capacity 1, three inserts + reads: the bound `1` is reached, not exceeded -/
example :
    (applyOps (D := Vec) id (TState.init Vec .lru 1 2 100 2)
      [.insert 1 [1, 2] [] true, .query 1 true, .insert 2 [3, 4] [] true, .query 2 true,
       .query 1 true]).l1a.size = 1 := by decide

/-- hard limit 2: the third insert drains first, the tier ends with one entry -/
example :
    (applyOps (D := Vec) id (TState.init Vec .lru 1 2 100 2)
      [.insert 1 [1, 2] [] true, .insert 2 [3, 4] [] true, .insert 3 [5, 6] [] true]).hot.length = 1 := by
  decide

/-- **A/B splitter.**  The full statement "the document cache never holds more than its
    configured capacity" is *false* for the A/B strategy as the server builds it (both arms are
    created with the whole `cache.capacity`): with capacity 1, two reads of ids of different
    parity leave two cached documents.  Replayed on the implementation on every run
    (known finding KF-C20-ab-double-capacity). -/
theorem C20_ab_splitter_holds_twice_cap :
    (applyOps (D := Vec) id (TState.init Vec .ab 1 8 100 2)
      [.insert 1 [1, 2] [] true, .insert 2 [3, 4] [] true, .query 1 true, .query 2 true]).l1a.size = 2 := by
  decide

/-- **Query-result cache bound.**  For every capacity and every sequence of cache operations
    (conditional stores with any generation / k / scope / results, lookups with any similarity
    oracle, per-document and per-insert invalidations, clears) the cache holds at most
    `max cap 1` entries (that its keys are unique is the next theorem). -/
theorem C20_query_cache_bound (cap : Nat) (ops : List QOp) :
    ((QCache.init cap).applyOps ops).entries.length ≤ max cap 1 := by
  obtain ⟨⟨_, hb⟩, hc⟩ := QCache.inv_applyOps ops (QCache.inv_init cap)
  rwa [hc] at hb

/-- one entry per key `(scope, query hash)` in every reachable state: the bound counts distinct
    cached queries -/
theorem C20_query_cache_keys_unique (cap : Nat) (ops : List QOp) :
    (QCache.keys ((QCache.init cap).applyOps ops).entries).Nodup :=
  (QCache.inv_applyOps ops (QCache.inv_init cap)).1.1

end KyroModel.C20
