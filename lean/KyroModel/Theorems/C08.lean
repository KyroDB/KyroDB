/-
C08 — No interleaving of concurrent API calls can deadlock.

Property statements and the predicate `WithinObserved` they speak of.  `Conc/LockSystem.lean` is
the abstract lock system (mutexes, reader/writer locks with writer preference, upgradable reads
and upgrades) the controlled
scheduler implements around the real locks; `Conc/LockGraphGenerated.lean` is REGENERATED on every
run from the lock nesting that scheduler observes while it drives every pair of API operations of
the catalogue (and random schedules of triples) through the current engine code.

* `no_deadlock_of_ranked` (LockSystem): for ANY number of threads and locks, a state in which
  every waiting thread holds only locks ranked strictly below the one it requests is not a
  deadlock;
* `edges_ranked` (generated): the observed nesting admits such a rank, so it is acyclic;
  `C08_nesting_acyclic` records that the translator listed no lock on a cycle and no re-entrant
  acquisition;
* `C08_no_deadlock`: hence no state whose nesting stays within the observed edges is a deadlock.

What this does not cover (partial): nesting the exploration never exercised (the catalogue and
its warm-up are the coverage), blocking that is not a parking_lot lock (none in the sync API, by
reading), and async paths of the server binary.
-/
import KyroModel.Conc.LockSystem
import KyroModel.Conc.LockGraphGenerated

namespace KyroModel.C08
open KyroModel.Conc

/-- every (held, requested) pair of a waiting thread is one of the observed nesting edges; an
    upgrade is requested on a lock held as an upgradable read -/
def WithinObserved (t : Th) : Prop :=
  match t.want with
  | none => True
  | some (l, .up) => holdsMode t l .ug = true ∧ ∀ p ∈ t.held, p.1 ≠ l → (p.1, l) ∈ Generated.edges
  | some (l, _) => ∀ p ∈ t.held, (p.1, l) ∈ Generated.edges

/-- **No deadlock**: any state — any number of threads — whose lock nesting stays within what the
    current code was observed to do is not a deadlock. -/
theorem C08_no_deadlock (ths : List Th) (h : ∀ t ∈ ths, WithinObserved t) (hwf : Wf ths) :
    ¬ Deadlock ths := by
  -- the observed edges go up in `Generated.rank`, so a thread within them obeys the discipline
  refine no_deadlock_of_ranked Generated.rank ths (fun t ht => ?_) hwf
  have h := h t ht
  unfold WithinObserved at h
  unfold RankedTh
  cases hw : t.want with
  | none => trivial
  | some p =>
    obtain ⟨l, r⟩ := p
    rw [hw] at h
    -- `edges_ranked` gets its edge explicitly: left to unification, `rank ?e.1 =?= rank p.1` is
    -- tried by unfolding `rank` over the whole table
    cases r
    case up => exact ⟨h.1, fun p hp hne => Generated.edges_ranked (p.1, l) (h.2 p hp hne)⟩
    all_goals exact fun p hp => Generated.edges_ranked (p.1, l) (h p hp)

/-- the translator found no lock on a cycle of the observed nesting and no re-entrant acquisition
    (both generated lists are empty; that a rank exists is `Generated.edges_ranked`) -/
theorem C08_nesting_acyclic : Generated.onCycle = [] ∧ Generated.reentrant = [] := by
  constructor <;> decide

/-- the classic inversion IS a deadlock in this model (so the theorem is not vacuous): thread 0
    holds lock 8 and wants lock 0, thread 1 holds lock 0 and wants lock 8 -/
example : Deadlock [⟨[(8, .ex)], some (0, .sh)⟩, ⟨[(0, .ex)], some (8, .ex)⟩] := by
  refine ⟨⟨_, List.mem_cons_self .., by decide⟩, ?_⟩
  intro i t hi hunf
  match i, hi with
  | 0, hi => simp at hi; subst hi; exact ⟨by decide, by decide⟩
  | 1, hi => simp at hi; subst hi; exact ⟨by decide, by decide⟩
  | n + 2, hi => simp at hi

end KyroModel.C08
