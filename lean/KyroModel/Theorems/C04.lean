/-
C04 — Lookups by id return the canonical latest version whatever the caches hold.

The abstract view `view`, the read and write theorems, what `specStep` means for lookups, and
witnesses.  Model: `KyroModel/Tiered/Model.lean`, tied to
engine/src/{tiered_engine,hot_tier,vector_cache,cache_strategy,coherence,hnsw_backend}.rs by
the `tiered` correspondence run of `./check C04`.

Shape: refinement to the abstract map `view s : id ↦ (vector, metadata)` of the canonical
store.  Reads are proved correct for *arbitrary* cache and mirror contents (that is the
"deliberately stale or corrupted entries" clause); writes are proved to move `view` exactly as
the map specification says, and drains / audits / reads to leave it alone.
-/
import KyroModel.Lemmas.OpInvariants

namespace KyroModel.C04

section
variable {D : Type} [DecidableEq D] (digest : Vec → D)

/-- the abstract collection: what a lookup by id must return (`view s id` is `bulkSpec s.cold id`
    by `rfl`) -/
def view (s : TState D) (id : Nat) : Option (Vec × Meta) :=
  (alookup id s.cold).map fun d => (d.vec, d.md)

/-- **The canonical check is sound**: a payload that passes it is the canonical vector. -/
theorem C04_canonical_check_sound (hinj : Function.Injective digest) (cold : Cold) (id : Nat)
    (v : Vec) (t : Token D) (h : canonicalState digest cold id v t = .matched) :
    ∃ d, alookup id cold = some d ∧ d.vec = v :=
  let ⟨d, h1, h2, _⟩ := canonicalState_matched hinj h
  ⟨d, h1, h2⟩

variable (hinj : Function.Injective digest)
include hinj

/-- **Point query.**  For every state — any L1a contents, any mirror contents, any admission
    decision — `query` returns exactly the canonical vector (or not-found) and does not touch
    the canonical store. -/
theorem C04_query (s : TState D) (id : Nat) (adm : Bool) :
    (query digest s id adm).2.map (·.1) = (view s id).map (·.1) ∧
    (query digest s id adm).1.cold = s.cold := by
  have h := query_spec digest s id adm
  refine ⟨?_, h.scrub.cold⟩
  rw [h.ans hinj]; unfold view; cases alookup id s.cold <;> rfl

/-- **Read with metadata**: vector and metadata are those of the canonical record. -/
theorem C04_doc_with_meta (s : TState D) (id : Nat) :
    (docWithMeta digest s id).2 = view s id ∧ (docWithMeta digest s id).1.cold = s.cold :=
  ⟨(docWithMeta_spec digest s id).ans hinj, (docWithMeta_spec digest s id).scrub.cold⟩

/-- **Response hydration** (`get_embedding_cache_aware`). -/
theorem C04_embedding_cache_aware (s : TState D) (id : Nat) :
    (embAware digest s id).2 = (view s id).map (·.1) ∧ (embAware digest s id).1.cold = s.cold := by
  have h := embAware_spec digest s id
  refine ⟨?_, h.scrub.cold⟩
  rw [h.ans hinj]; unfold view; cases alookup id s.cold <;> rfl

omit hinj in
/-- **Metadata lookup and existence probe** read the canonical store only. -/
theorem C04_metadata_exists (s : TState D) (id : Nat) :
    getMeta s id = (view s id).map (·.2) ∧ existsDoc s id = (view s id).isSome := by
  unfold getMeta existsDoc view
  cases alookup id s.cold <;> exact ⟨rfl, rfl⟩

/-- **Bulk query**: position by position the canonical (vector, metadata) or not-found. -/
theorem C04_bulk_query (s : TState D) (ids : List Nat) :
    (bulkQuery digest s ids).2.map dropTier = ids.map (view s) ∧
    (bulkQuery digest s ids).1.cold = s.cold :=
  ⟨(bulkQuery_spec digest s ids).ans hinj, (bulkQuery_spec digest s ids).scrub.cold⟩

omit hinj in
/-- **Writes refine the map, nothing else writes.**  In every state where each mirrored
    document has a canonical record (an invariant of all admissible histories: `applyOps_refines`),
    each operation changes the canonical store exactly as the write API's map semantics
    (`specStep`) prescribes: drains, emergency evictions, audits, reads, cache plants — no change;
    a refused insert — no change. -/
theorem C04_writes_refine (s : TState D) (op : TOp D) (hs : HotSubCold s) (hadm : op.admissible s) :
    (applyOp digest s op).cold = specStep s.cold op :=
  ((applyOp_spec digest s op).refines hs hadm).1

omit hinj in
/-- **Draining or auditing never changes what is canonical (hence what any read returns, by the
    read theorems above) nor, since the model's only durable state is the canonical store, what
    is durable.** -/
theorem C04_drain_audit_noop (s : TState D) (force : Bool) (hs : HotSubCold s) :
    (flush digest s force).1.cold = s.cold ∧ (audit digest s).1.cold = s.cold :=
  ⟨((flush_stepSpec digest s force).refines hs trivial).1, (scrub_audit digest s).cold⟩

omit hinj in
/-- **Any history.**  From the empty engine, after any admissible operation sequence (any
    length, any strategy / capacity / limits, any oracle inputs, cache plants and plants of
    stale/corrupt mirrors for canonical ids included) the canonical store equals the fold of
    the map specification over the operations — so by `C04_query` … `C04_bulk_query` every
    read returns the most recent successful write or not-found. -/
theorem C04_history (kind : StratKind) (cap hard soft dim : Nat) (ops : List (TOp D))
    (hadm : Admissible digest (TState.init D kind cap hard soft dim) ops) :
    (applyOps digest (TState.init D kind cap hard soft dim) ops).cold = ops.foldl specStep [] :=
  (applyOps_refines (hsc_of_hot_nil rfl) hadm).1

end

/-! ### The map specification really is a map (what `specStep` means for lookups) -/

theorem spec_insert_lookup (c : Cold) (id j : Nat) (v : Vec) (m : Meta) :
    (alookup j (c.insert id v m)).map (fun d => (d.vec, d.md)) =
      if j = id then some (v, m) else (alookup j c).map (fun d => (d.vec, d.md)) := by
  rw [Cold.alookup_insert]; split <;> rfl

theorem spec_delete_lookup (c : Cold) (id j : Nat) :
    alookup j (c.delete id).1 = if j = id then none else alookup j c :=
  Cold.alookup_delete c id j

theorem spec_update_lookup (c : Cold) (id j : Nat) (m : Meta) (mg : Bool) :
    (alookup j (c.updateMeta id m mg).1).map (·.vec) = (alookup j c).map (·.vec) := by
  rw [Cold.alookup_updateMeta]
  split
  · next h => subst h; cases alookup j c <;> rfl
  · rfl

/-- a stale L1a entry (old version, right digest of the *old* vector) is not served -/
example :
    let s := applyOps (D := Vec) id (TState.init Vec .lru 2 4 100 2)
      [.insert 1 [1, 2] [] true, .pokeCache 1 [9, 9] ⟨1, [9, 9]⟩, .insert 1 [3, 4] [] true,
       .pokeCache 1 [1, 2] ⟨1, [1, 2]⟩]
    (query id s 1 true).2 = some ([3, 4], Tier.hot) := by decide

/-- a corrupted mirror (right token, wrong payload) is scrubbed and the canonical copy served -/
example :
    let s := applyOps (D := Vec) id (TState.init Vec .lru 2 4 100 2)
      [.insert 1 [1, 2] [] true, .pokeHot 1 [7, 7] [] ⟨1, [1, 2]⟩]
    (query id s 1 false).2 = some ([1, 2], Tier.cold) := by decide

/-- the history hypothesis is satisfiable by a non-trivial history -/
example : Admissible (D := Vec) id (TState.init Vec .ab 1 1 1 2)
    [.insert 1 [1, 2] [] true, .insert 2 [3, 4] [] true, .pokeHot 1 [5, 5] [] ⟨3, [0]⟩,
     .flush true, .delete 1, .query 1 true] := by
  simp only [Admissible, TOp.admissible, and_true, true_and]
  decide

end KyroModel.C04
