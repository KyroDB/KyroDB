/-
C15 — Every request gets an answer and invalid input is refused without effect.

Property statements (`minTyped_bounds` among them) and two evaluation examples; the lemmas they
rest on are in `Lemmas/Validate.lean`.
Proved: the validators and the search planner are total, never
divide by zero, and accept exactly the documented field ranges, for EVERY request value (any
filter tree, any depth).  "Refused ⇒ no effect, live and after restart" on the durable write
path is C03's theorem (`C03_refused_insert_noop`, `C03_failed_write_changes_nothing`), which
covers every refusal class the validators or the engine can raise.  The RPC glue (prost
decoding, streaming handlers, panic containment) is exercised black-box, not modelled.
-/
import KyroModel.Lemmas.Validate
import KyroModel.Theorems.C03

namespace KyroModel.C15

theorem minTyped_bounds : ∀ (fs : List Filter) (m : Nat), minTyped fs = some m → 1 ≤ m ∧ m ≤ 50 :=
  fun fs m h => by
    obtain ⟨f, _, rfl⟩ := minTyped_mem fs m h
    exact oversample_bounds f

/-- **The oversampling estimate is total and in `[1, 50]` for every filter tree** — in
    particular the divisor in `50 / inner_selectivity` is never zero. -/
theorem C15_oversampling_total_pos (f : Filter) : 1 ≤ oversample f ∧ oversample f ≤ 50 :=
  oversample_bounds f

/-- **Plan bounds**: an accepted search has `1 ≤ k ≤ search_k ≤ 10 000` and `ef ∈ [1, 10 000]`
    when overridden. -/
theorem C15_plan_bounds (len : Nat) (finite : Bool) (k ef : Nat) (ns : Bool) (f : Option Filter)
    (p : Plan) (h : validateSearch len finite k ef ns f = .ok p) :
    1 ≤ k ∧ k ≤ p.searchK ∧ p.searchK ≤ 10000 ∧ (∀ e, p.ef = some e → 1 ≤ e ∧ e ≤ 10000) := by
  obtain ⟨⟨_, _, _, hk, hk', hef⟩, rfl⟩ := validateSearch_ok_iff.mp h
  have := Nat.le_mul_of_pos_right k (searchFactor_pos ns f)
  refine ⟨hk, by simp only; omega, Nat.min_le_right _ _, fun e he => ?_⟩
  simp only at he
  split at he
  · cases he
  · cases he; omega

/-- **The search validator accepts exactly the documented ranges.** -/
theorem C15_search_validator_decides (len : Nat) (finite : Bool) (k ef : Nat) (ns : Bool)
    (f : Option Filter) :
    (∃ p, validateSearch len finite k ef ns f = .ok p) ↔
      (1 ≤ len ∧ len ≤ 4096 ∧ finite = true ∧ 1 ≤ k ∧ k ≤ 1000 ∧ ef ≤ 10000) := by
  simp only [validateSearch_ok_iff, exists_and_left, exists_eq, and_true]

/-- **The insert validator accepts exactly: id ≥ 1, 1 ≤ dimension ≤ 4096, all values finite.** -/
theorem C15_insert_validator_decides (id len : Nat) (finite : Bool) :
    validateInsert id len finite = .ok () ↔ (1 ≤ id ∧ 1 ≤ len ∧ len ≤ 4096 ∧ finite = true) := by
  simp only [validateInsert, guard_eq_ok, Bool.not_eq_true', Bool.not_eq_false, and_true,
    gt_iff_lt, Nat.not_lt, ← Nat.one_le_iff_ne_zero]

/-- **Refused ⇒ without effect** on the durable write path, after any history (this is C03's
    theorem, restated so that the obligation list of C15 contains it). -/
theorem C15_refused_no_effect (cfg : PCfg) (ops : List POp) (hv : ∀ op ∈ ops, op.valid) (op : POp)
    (hop : op.valid)
    (hfail : (pStep (pRun cfg ops).1 (pRun cfg ops).2 op).2.2 = .rejected ∨
             (pStep (pRun cfg ops).1 (pRun cfg ops).2 op).2.2 = .full ∨
             (pStep (pRun cfg ops).1 (pRun cfg ops).2 op).2.2 = .err) :
    (pStep (pRun cfg ops).1 (pRun cfg ops).2 op).1.store.docs = (pRun cfg ops).1.store.docs ∧
    (pStep (pRun cfg ops).1 (pRun cfg ops).2 op).2.1 = [] :=
  C03.C03_failed_write_changes_nothing cfg ops hv op hop hfail

example : oversample (.not (some (.or [.exact "a" "b", .none, .and []]))) = 25 := by decide
example : (validateSearch 16 true 1000 0 true (some (.not none))).toOption = some ⟨10000, none⟩ := by decide

end KyroModel.C15
