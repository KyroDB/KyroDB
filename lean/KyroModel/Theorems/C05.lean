/-
C05 — Per-document operations are linearizable under concurrency.

The concurrent executions themselves are explored on the REAL code by
the controlled scheduler (`./check C05`: every distinct history is checked against the
per-document register specification); what is proved here is the argument that makes those
histories linearizable, and where it stops:

* `C05_read_linearises_at_the_check`: a copy (cached or mirrored) that passes the coherence check
  against the canonical store AT SOME INSTANT is that instant's canonical vector — the check is
  the read's linearisation point (injective digest, as in C04);
* `C05_instants_order_respects_real_time`: operations that each take effect at one instant inside
  their own invocation–response interval are totally ordered by those instants in a way that
  respects real-time order — for any number of operations;
* `C05_two_observation_read_tears`: a read assembled from TWO observations (vector at one
  instant, metadata at another) can return a pair that is no state of the document — what
  `get_document_with_metadata` / `bulk_query` did before commits 2ef43c1 / 83801c6, since which the
  metadata is read together with the token of its vector; `C05_one_observation_read_is_a_state`:
  taken at ONE instant the pair is always a state of the document;
* `C05_paired_by_token`: the repaired pairing — a mirrored vector is combined with metadata only
  when it carries the token read together with that metadata — returns a pair that WAS the
  document's state at the metadata instant.
-/
import KyroModel.Lemmas.Canonical

namespace KyroModel.C05

section
variable {D : Type} [DecidableEq D] (digest : Vec → D)

/-- **The coherence check is the linearisation point of a read**: whatever copy is being held and
    wherever it came from, if it passes the check against the canonical store `cold` (the store
    as it is at the instant of the check), the value returned is that store's vector. -/
theorem C05_read_linearises_at_the_check (hinj : Function.Injective digest) (cold : Cold) (id : Nat)
    (v : Vec) (t : Token D) (h : canonicalState digest cold id v t = .matched) :
    (alookup id cold).map (·.vec) = some v :=
  canonicalState_matched_vec hinj h

/-- **The repaired pairing** (fix of the torn read): the metadata `md` was read from the store
    `coldAtMd` together with the token `tm` of the document's vector; a mirrored copy `(v, t)` is
    paired with it only if `t = tm` (and the copy is self-consistent).  Then `(v, md)` is exactly
    the document as it was in `coldAtMd` — one state, one write. -/
theorem C05_paired_by_token (hinj : Function.Injective digest) (coldAtMd : Cold) (id : Nat)
    (d : ColdDoc) (hd : alookup id coldAtMd = some d) (v : Vec) (t : Token D)
    (htok : t = coldToken digest d) (hself : digest v = t.dig) :
    (v, d.md) = (d.vec, d.md) := by
  have : digest v = digest d.vec := by rw [hself, htok]; rfl
  rw [hinj this]

end

/-- operation `k` was invoked at `inv k`, responded at `ret k`, and took effect at the instant
    `pt k` inside that interval -/
structure Timed (n : Nat) where
  inv : Fin n → Nat
  ret : Fin n → Nat
  pt : Fin n → Nat
  inside : ∀ k, inv k ≤ pt k ∧ pt k ≤ ret k

/-- **Ordering operations by their instants respects real time**: if `a` responded before `b` was
    invoked, `a`'s instant precedes `b`'s.  (So the sequence of instants is a linearisation order;
    with `C05_read_linearises_at_the_check` each read returns the register's value at its place in
    that order.) -/
theorem C05_instants_order_respects_real_time {n : Nat} (h : Timed n) (a b : Fin n)
    (hrt : h.ret a < h.inv b) : h.pt a < h.pt b := by
  have ha := (h.inside a).2
  have hb := (h.inside b).1
  omega

/-! ### a read made of two observations -/

/-- the document's successive states under a history of whole-document writes (vector, metadata) -/
def statesOf (init : Nat × Nat) (writes : List (Nat × Nat)) : List (Nat × Nat) := init :: writes

/-- a read that takes the vector at one position of the state sequence and the metadata at
    another (the old `get_document_with_metadata`: metadata first, vector later) -/
def twoObservationRead (states : List (Nat × Nat)) (iVec iMeta : Nat) : Option (Nat × Nat) :=
  match states[iVec]?, states[iMeta]? with
  | some a, some b => some (a.1, b.2)
  | _, _ => none

/-- **It tears**: document (3,3), overwritten with (5,5) between the two observations: the read
    returns (5,3), which is no state the document ever had. -/
theorem C05_two_observation_read_tears :
    let states := statesOf (3, 3) [(5, 5)]
    twoObservationRead states 1 0 = some (5, 3) ∧ (5, 3) ∉ states := by decide

/-- a one-observation read returns a state of the document, always -/
theorem C05_one_observation_read_is_a_state (states : List (Nat × Nat)) (i : Nat) (r : Nat × Nat)
    (h : twoObservationRead states i i = some r) : r ∈ states := by
  unfold twoObservationRead at h
  cases hs : states[i]? with
  | none => simp [hs] at h
  | some a =>
    simp only [hs, Option.some.injEq] at h
    rw [← h]
    exact List.mem_of_getElem? hs

end KyroModel.C05
