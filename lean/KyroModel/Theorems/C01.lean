/-
C01 — Acknowledged writes survive a crash at any instant and restart always succeeds.

Model: `KyroModel/Persist/{Model,Ops}.lean`; tie: the `persist`
correspondence run of `./check C01` materialises, from the FS-shim effect log of the real
backend, the directory at EVERY effect boundary (and torn prefixes of frame writes) of every
operation of generated histories, runs the real strict `recover` on it and compares with the
model's prediction for the corresponding action prefix.

Scope of the proof: the **process-kill** failure model at the granularity of logical actions
(whole frames, atomic MANIFEST / snapshot publication).  That a torn frame is invisible to the
reader and that tmp+fsync+rename+dir-fsync is atomic are byte/OS-level facts validated by the
crash enumeration, not proved here.  Power loss (fsync-every-write) is validated by the same
enumeration over synced-prefix states.  The periodic-fsync clause has its own protocol model and
theorems in `Theorems/C01Periodic.lean` (two defects on that path were repaired in the code:
be0c955, c353f41).
-/
import KyroModel.Lemmas.PersistHistory
import KyroModel.Theorems.C01Periodic

namespace KyroModel.C01

/-- **Power loss (fsync-every-write).**  A power failure may additionally undo directory changes
    that were not yet synced — the creation of a file, the removal of a file.  The protocol only
    ever leaves such changes pending for files the MANIFEST does not (yet / any longer) reference
    (a new segment or snapshot is created before the MANIFEST that names it is published with a
    directory sync; a compacted segment or retired snapshot is removed after the MANIFEST that
    drops it).  So a power-loss directory `d'` is a kill-point directory up to unreferenced files
    (`SameReferenced`), and recovers exactly as the kill point does.  That real power-loss
    directories have this shape is what `./check C01` validates: for every directory the FS-shim's
    power-loss model can produce, the referenced view (MANIFEST + listed segments + pointed
    snapshot) must be the view of some action prefix of the model. -/
theorem C01_power_loss_point (cfg : PCfg) (ops : List POp) (hv : ∀ op ∈ ops, op.valid) (op : POp)
    (hop : op.valid) (hnb : op.isBatch = false) (k : Nat) (d' : Disk)
    (hd : SameReferenced ((pRun cfg ops).2.applyAll ((pStep (pRun cfg ops).1 (pRun cfg ops).2 op).2.1.take k)) d') :
    ∃ r mx, recover d' = .ok (r, mx) ∧
      (MapEq r (pRun cfg ops).1.store.docs ∨
       MapEq r (pStep (pRun cfg ops).1 (pRun cfg ops).2 op).1.store.docs) := by
  have hk := allPrefixes_take (pStep_spec (einv_pRun cfg hv) hop hnb).kill k
  rcases hk with hk | hk <;> obtain ⟨r, mx, h1, h2⟩ := recover_of_Rec (hk.of_sameReferenced hd)
  · exact ⟨r, mx, h1, .inl h2⟩
  · exact ⟨r, mx, h1, .inr h2⟩

/-- **Every kill point of every operation after every history.**  Let the engine have executed
    any history, and let it be killed after any prefix (`take k`, any `k`) of the actions of the
    next operation — an insert, overwrite, delete, metadata update, manual snapshot, automatic
    snapshot, rotation, segment compaction, or a *restart* (a crash during the start-up that
    follows a clean stop; start-up on a directory left by a crash is not an operation of `POp`).
    Then strict recovery of the directory succeeds and yields exactly the documents acknowledged
    before the operation, or those plus the operation in flight.  (Batch deletes:
    `C01_kill_point_batch_partial`.) -/
theorem C01_kill_point (cfg : PCfg) (ops : List POp) (hv : ∀ op ∈ ops, op.valid) (op : POp)
    (hop : op.valid) (hnb : op.isBatch = false) (k : Nat) :
    ∃ r mx, recover ((pRun cfg ops).2.applyAll
        ((pStep (pRun cfg ops).1 (pRun cfg ops).2 op).2.1.take k)) = .ok (r, mx) ∧
      (MapEq r (pRun cfg ops).1.store.docs ∨
       MapEq r (pStep (pRun cfg ops).1 (pRun cfg ops).2 op).1.store.docs) :=
  C01_power_loss_point cfg ops hv op hop hnb k _ (SameReferenced.refl _)

/-- non-vacuity of `SameReferenced`: an orphan segment the MANIFEST does not list changes nothing -/
example : SameReferenced
    { manifest := some ⟨none, none, [0]⟩, snaps := [], wals := [(0, {entries := []})] }
    { manifest := some ⟨none, none, [0]⟩, snaps := [], wals := [(7, {entries := []}), (0, {entries := []})] } := by
  refine ⟨rfl, ?_⟩
  intro m hm
  cases hm
  refine ⟨?_, fun n hn => nomatch hn⟩
  intro n hn
  simp only [List.mem_singleton] at hn
  subst hn
  rfl

/-- the full statement for batch deletes, kept visible: every kill point recovers to the state
    before or after the whole batch -/
def BatchAtomicStatement : Prop :=
  ∀ (cfg : PCfg) (ops : List POp), (∀ op ∈ ops, op.valid) → ∀ (ids : List Nat) (fl k : Nat),
    ∃ r mx, recover ((pRun cfg ops).2.applyAll
        ((pBatchDelete (pRun cfg ops).1 (pRun cfg ops).2 ids fl).2.1.take k)) = .ok (r, mx) ∧
      (MapEq r (pRun cfg ops).1.store.docs ∨
       MapEq r (pBatchDelete (pRun cfg ops).1 (pRun cfg ops).2 ids fl).1.store.docs)

/-- **Batch delete, partial.**  Restart always succeeds, and the recovered documents are the
    acknowledged ones with a *prefix* of the batch's (live) ids removed — the batch is logged one
    frame per id, so it is not atomic with respect to a kill.  Known finding
    KF-C01-batch-delete-not-atomic; `C01_batch_not_atomic_witness` is a concrete history and kill
    point at which the conclusion of `BatchAtomicStatement` fails (its negation is not stated). -/
theorem C01_kill_point_batch_partial (cfg : PCfg) (ops : List POp) (hv : ∀ op ∈ ops, op.valid)
    (ids : List Nat) (fl k : Nat) :
    ∃ r mx j, recover ((pRun cfg ops).2.applyAll
        ((pBatchDelete (pRun cfg ops).1 (pRun cfg ops).2 ids fl).2.1.take k)) = .ok (r, mx) ∧
      MapEq r (eraseAll (pRun cfg ops).1.store.docs
        ((ids.filter fun id => (pRun cfg ops).1.store.has id).take j)) := by
  have h := einv_pRun cfg hv
  obtain ⟨j, hj⟩ := allPrefixes_take ((pBatchDelete_spec _ _ ids fl).2.2 h).2 k
  obtain ⟨r, mx, h1, h2⟩ := recover_of_Rec hj
  exact ⟨r, mx, j, h1, h2⟩

def recIds (d : Disk) (ids : List Nat) : Option (List Bool) :=
  match recover d with
  | .ok (docs, _) => some (ids.map fun id => (alookup id docs).isSome)
  | .error _ => none

/-- two documents, `batch_delete [1, 2]`, kill after the first frame: document 1 is gone,
    document 2 is still there — neither the state before nor the state after the batch -/
theorem C01_batch_not_atomic_witness :
    let ops : List POp := [.insert 1 [10] [] .yes 60 52, .insert 2 [20] [] .yes 60 52]
    let e := (pRun ⟨0, 0, 10⟩ ops).1
    let d := (pRun ⟨0, 0, 10⟩ ops).2
    recIds (d.applyAll ((pBatchDelete e d [1, 2] 52).2.1.take 1)) [1, 2] = some [false, true] := by
  decide

/-- the hypotheses of `C01_kill_point` are met by a non-trivial history and operation: kill
    inside the automatic snapshot + segment compaction triggered by the third insert -/
example :
    let ops : List POp := [.insert 1 [10] [] .yes 60 52, .insert 2 [20] [] .yes 60 52]
    let e := (pRun ⟨3, 100, 10⟩ ops).1
    let d := (pRun ⟨3, 100, 10⟩ ops).2
    ((pStep e d (.insert 1 [11] [] .yes 60 52)).2.1.length,
     (List.range 6).map fun k =>
       recIds (d.applyAll ((pStep e d (.insert 1 [11] [] .yes 60 52)).2.1.take k)) [1, 2])
      = (5, List.replicate 6 (some [true, true])) := by decide

end KyroModel.C01
