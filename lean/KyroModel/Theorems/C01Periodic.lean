/-
C01, periodic-fsync clause — "under the periodic-fsync policy the same holds against power loss for
every operation acknowledged more than one configured flush interval before the failure".

The clause's two theorems (short proofs from the invariant of `Lemmas/Periodic.lean`), a `decide`
witness for the code before c353f41 and an example with the fix.  Model: `Persist/Periodic.lean`
(segments of the acknowledged log with their synced prefix; appends sync on the writer's own interval, the server's timer syncs the
active segment, a segment is synced when it stops being active).  Tie: `./check C01` runs the real
TieredEngine under `FsyncPolicy::Periodic` with a virtual clock, log rotation and clean restarts,
replays the server's timer body (its calls are extracted from kyrodb_server.rs on every run) and
compares, at every power-loss point, the directories the FS-shim's power-loss model can produce
(each recovered strictly by the real code) with this model's `outcomes`: every real outcome must
be a model outcome, and the model's smallest outcome must be among the real ones.
-/
import KyroModel.Lemmas.Periodic

namespace KyroModel.C01Periodic
open KyroModel.Periodic

/-- **Whatever a power failure leaves is a prefix of the acknowledged history that contains
    everything the last timer tick covered** — for every history of inserts, overwrites, deletes
    (of present and absent ids), clock advances, timer ticks and clean restarts, with rotation after
    every write or never, any flush interval. -/
theorem C01_periodic_outcome_is_covering_prefix (iv : Nat) (rot : Bool) (evs : List Ev) :
    let s := run { iv := iv, rot := rot, fix := true } evs
    ∀ o ∈ outcomes s, ∃ j, s.coveredAtTick ≤ j ∧ j ≤ s.log.length ∧ o = fold ((s.log.map (·.2)).take j) := by
  intro s o ho
  have hI : Inv s := inv_reachable iv rot evs
  obtain ⟨ks, hks, rfl⟩ := List.mem_map.mp ho
  obtain ⟨k, h1, h2, h3⟩ := kept_prefix hI.oldSynced s.act ks (s.log.map (·.2)) ((mem_choices ks).mp hks)
  refine ⟨total s.old + k, ?_, ?_, ?_⟩
  · have := hI.covered; omega
  · have := hI.lens; omega
  · show fold (kept (s.old ++ [s.act]) ks _) = _
    rw [h3]

/-- **The clause itself.**  If the server's timer fired within the last flush interval
    (`now < lastTick + iv`: it fires at every multiple of the interval), then every operation
    acknowledged more than one interval before the failure (`t + iv < now`) is inside every
    outcome's prefix: position `i` of the acknowledged history lies below the cut `j`. -/
theorem C01_periodic_old_acks_survive (iv : Nat) (rot : Bool) (evs : List Ev) :
    let s := run { iv := iv, rot := rot, fix := true } evs
    s.now < s.lastTick + s.iv →
    ∀ o ∈ outcomes s, ∃ j, j ≤ s.log.length ∧ o = fold ((s.log.map (·.2)).take j) ∧
      ∀ i (h : i < s.log.length), (s.log[i]).1 + s.iv < s.now → i < j := by
  intro s htick o ho
  have hI : Inv s := inv_reachable iv rot evs
  obtain ⟨j, h1, h2, h3⟩ := C01_periodic_outcome_is_covering_prefix iv rot evs o ho
  have h1 : s.coveredAtTick ≤ j := h1
  have h2 : j ≤ s.log.length := h2
  refine ⟨j, h2, h3, ?_⟩
  intro i hi hold
  -- at or past the tick mark `i` was acknowledged after the tick, against `htick` and `hold`;
  -- before it, `i < coveredAtTick ≤ j`
  by_cases hc : s.coveredAtTick ≤ i
  · have := hI.late i hi hc
    omega
  · omega

/-- **Why the outgoing segment must be synced** (the code before c353f41): an insert, a clean
    restart, then any number of timer ticks — a power failure five intervals later can still leave
    the empty collection; likewise with rotation after every write. -/
theorem C01_periodic_unsynced_outgoing_segment_loses_old_ack :
    ([] : Docs) ∈ outcomes (run { iv := 100, rot := false, fix := false }
      [.ins 1 1, .restart, .advance 100, .tick, .advance 100, .tick, .advance 300]) ∧
    ([] : Docs) ∈ outcomes (run { iv := 100, rot := true, fix := false }
      [.ins 1 1, .ins 2 2, .advance 100, .tick, .advance 100, .tick, .advance 300]) := by
  decide

/-- with the fix the first of these histories keeps everything: its only outcome is the full
    collection, although the last tick is by then older than one interval (`now < lastTick + iv`
    fails; only `now < lastTick + iv + 300` holds) -/
example :
    outcomes (run { iv := 100, rot := false, fix := true }
      [.ins 1 1, .restart, .advance 100, .tick, .advance 100, .tick, .advance 300]) = [[(1, 1)]] ∧
    (run { iv := 100, rot := false, fix := true }
      [.ins 1 1, .restart, .advance 100, .tick, .advance 100, .tick, .advance 300]).now <
      (run { iv := 100, rot := false, fix := true }
        [.ins 1 1, .restart, .advance 100, .tick, .advance 100, .tick, .advance 300]).lastTick + 100 + 300 := by
  decide

end KyroModel.C01Periodic
