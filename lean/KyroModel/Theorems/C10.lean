/-
C10 — Tenants are isolated end to end.

The theorems of C10, with the histories they speak of (`Hist`, `observed_by`, `purge` and their filter-delete
versions) and the concrete witnesses; the lemmas are in `Lemmas/Tenant*.lean`.  Model: `Server/Tenant.lean` (the
tenant layer of kyrodb_server.rs over the abstract document map).  Tie: `./check C10` drives the REAL `kyrodb_server` binary over gRPC / HTTP
and compares every answer with this model; independently of the model it replays every history with
the other tenants' requests removed and compares what each tenant observes.

* `C10_reserved_never_shown`: no server-owned key survives `strip` (the metadata every answer shows);
  `C10_reserved_not_settable`, `C10_namespace_not_settable`: under `stamp` (the metadata every write stores) the
  tenant-index key is bound to the server's index text and, when the request names a namespace, the namespace key to it;
* `C10_point_read_is_own`: a point read answers from the caller's own id range and only when the
  stored tenant index is the caller's; `C10_namespace_selector`: a namespace selector never matches
  a document of another namespace;
* `C10_write_frame_insert/_delete/_update/_batchDeleteIds/_bulkInsert/_bulkLoad`: a write / delete / update / batch
  delete by ids / BulkInsert stream / BulkLoadHnsw batch of tenant B leaves every read of a tenant A with another index
  unchanged (found / not-found included); `C10_write_frame_batchDeleteFilter`: so does a batch delete by ANY filter, on a
  state with unique ids, for tenants whose index texts differ;
* `C10_noninterference` / `_from_start`: over whole histories of the id-addressed RPCs, what a tenant observes equals what
  it observes with every other tenant's requests removed (unwinding: `Lemmas/TenantNI.lean`);
* `C10_noninterference_with_filter_deletes` / `_from_start`: the same with `BatchDelete` by ANY filter in the histories, on
  reachable states (invariant `Inv` of C14: unique ids, documents stored in their tenant's id range);
* `C10_filter_blind_to_reserved`, `C10_reserved_filter_refused_search/_batchDelete`: a client filter naming a
  server-owned key is refused; any other filter gives the same verdict on the stored and on the public metadata;
* `C10_search_sound`: every search result is a document of the caller (id range, stored index,
  namespace), public metadata only;
* `C10_search_isolated_partial`: when the engine is asked for at least as many candidates as there
  are documents, a search answers exactly as it would on a server holding only the caller's
  documents — and `C10_search_count_leak`: WITHOUT that hypothesis the full statement is false: the
  result count of tenant A changes with what tenant B stores (k-NN first over all tenants, tenant
  check afterwards).  Known finding KF-C10-shared-index-post-filter.
-/
import KyroModel.Lemmas.TenantInv
import KyroModel.Lemmas.TenantNI

namespace KyroModel.C10
open KyroModel.Srv

theorem C10_reserved_never_shown (m : Meta) : ∀ p ∈ strip m, reserved p.1 = false :=
  strip_no_reserved m

/-- whatever the client sent under the reserved names, a write stores the SERVER's tenant index -/
theorem C10_reserved_not_settable (t : Tn) (m : Meta) (ns : String) :
    mget (stamp t m ns) kTenantIdx = some t.idxStr :=
  stamp_idx t m ns

/-- and the namespace of the REQUEST (none when the request names none) -/
theorem C10_namespace_not_settable (t : Tn) (m : Meta) (ns : String) (h : ns ≠ "") :
    mget (stamp t m ns) kNamespace = some ns := by
  unfold stamp
  have : (ns == "") = false := by simpa using h
  simp only [this]
  exact mget_set_self

/-- a point read answers only from the caller's own id range, only when the stored tenant index is
    the caller's, and with public metadata only -/
theorem C10_point_read_is_own (s : S) (t : Tn) (lid : Nat) (ns : String) (v : List Nat) (m : Meta)
    (h : readDoc s t lid ns = some (v, m)) :
    ∃ g d, gid t lid = some g ∧ alookup g s.docs = some d ∧ mget d.md kTenantIdx = some t.idxStr ∧
      v = d.vec ∧ m = strip d.md := by
  obtain ⟨g, d, hg, hd, hv, hr⟩ := readDoc_eq_some.mp h
  exact ⟨g, d, hg, hd, (visible_iff.mp hv).1, (Prod.mk.inj hr).1, (Prod.mk.inj hr).2⟩

/-- a namespace selector never matches a document of another namespace -/
theorem C10_namespace_selector (s : S) (t : Tn) (lid : Nat) (ns : String) (hns : ns ≠ "")
    (r : List Nat × Meta) (h : readDoc s t lid ns = some r) :
    ∃ g d, gid t lid = some g ∧ alookup g s.docs = some d ∧ nsOf d.md = ns := by
  obtain ⟨g, d, hg, hd, hv, _⟩ := readDoc_eq_some.mp h
  exact ⟨g, d, hg, hd, (visible_iff.mp hv).2.resolve_left hns⟩

/-! ### frame: another tenant's writes

Each id-addressed one is `handle_frame` at one constructor of `Req`. -/

theorem setCount_docs (s : S) (t : Tn) (n : Nat) : (setCount s t n).docs = s.docs := rfl
theorem setUsage_docs (s : S) (t : Tn) (u : Usage) : (setUsage s t u).docs = s.docs := rfl

/-- **Insert of B never changes a read of A** (overwrite attempts on colliding local ids included) -/
theorem C10_write_frame_insert (s : S) (a b : Tn) (hab : a.idx ≠ b.idx) (lb : Nat) (v : List Nat)
    (m : Meta) (nsb : String) (la : Nat) (ns : String) :
    readDoc (Srv.insert s b lb v m nsb).1 a la ns = readDoc s a la ns :=
  handle_frame hab s (.insert lb v m nsb) la ns

theorem C10_write_frame_delete (s : S) (a b : Tn) (hab : a.idx ≠ b.idx) (lb : Nat) (nsb : String)
    (la : Nat) (ns : String) :
    readDoc (Srv.delete s b lb nsb).1 a la ns = readDoc s a la ns :=
  handle_frame hab s (.delete lb nsb) la ns

theorem C10_write_frame_update (s : S) (a b : Tn) (hab : a.idx ≠ b.idx) (lb : Nat) (m : Meta)
    (mg : Bool) (nsb : String) (la : Nat) (ns : String) :
    readDoc (Srv.updateMeta s b lb m mg nsb).1 a la ns = readDoc s a la ns :=
  handle_frame hab s (.update lb m mg nsb) la ns

theorem C10_write_frame_batchDeleteIds (s : S) (a b : Tn) (hab : a.idx ≠ b.idx) (lids : List Nat)
    (nsb : String) (la : Nat) (ns : String) :
    readDoc (Srv.batchDeleteIds s b lids nsb).1 a la ns = readDoc s a la ns :=
  handle_frame hab s (.bdIds lids nsb) la ns

/-- **BatchDelete by filter of B never changes a read of A** (unique global ids; the two tenants'
    index texts differ): whatever the filter — NOT / OR forms, reserved keys — it is evaluated under
    the conjunction with B's own index, and a document A can read carries A's index. -/
theorem C10_write_frame_batchDeleteFilter (parse : String → Option Nat) (s : S) (a b : Tn)
    (hab : a.idxStr ≠ b.idxStr) (hk : Keys s.docs) (f : Filter) (nsb : String) (la : Nat) (ns : String) :
    readDoc (Srv.batchDeleteFilter parse s b f nsb).1 a la ns = readDoc s a la ns := by
  rw [batchDeleteFilter_eq]
  split
  · rfl
  unfold readDoc
  split
  · rfl
  · rename_i g _
    rw [docs_noteDeletes, docs_decCount, deleteMany_lookup]
    by_cases hm : g ∈ selected parse s b f nsb
    · -- the document under g was B's: A could not read it before either
      obtain ⟨d, hd, hP⟩ := (mem_selected parse hk b f nsb g).mp hm
      simp only [if_pos hm, hd, visible_excl hab hP.1, Bool.false_eq_true, if_false]
    · rw [if_neg hm]

theorem C10_write_frame_bulkLoad (s : S) (a b : Tn) (hab : a.idx ≠ b.idx) (items : List Item)
    (la : Nat) (ns : String) : readDoc (Srv.bulkLoad s b items).1 a la ns = readDoc s a la ns :=
  handle_frame hab s (.bulkLoad items) la ns

theorem C10_write_frame_bulkInsert (s : S) (a b : Tn) (hab : a.idx ≠ b.idx) (items : List Item)
    (la : Nat) (ns : String) : readDoc (Srv.bulkInsert s b items).1 a la ns = readDoc s a la ns :=
  handle_frame hab s (.bulkInsert items) la ns

/-- **Client filters cannot see the server-owned keys**: a filter that reaches the evaluation names
    none of them (one that does is refused), and such a filter gives the same verdict on the stored
    metadata as on the public metadata the client can read back. -/
theorem C10_filter_blind_to_reserved (parse : String → Option Nat) (f : Filter) (md : Meta)
    (h : mentionsReserved f = false) : matchesF parse f (strip md) = matchesF parse f md :=
  matchesF_strip parse f md h

theorem C10_reserved_filter_refused_search (parse : String → Option Nat) (s : S) (t : Tn) (rank : List Nat)
    (k : Nat) (ns : String) (f : Filter) (h : mentionsReserved f = true) :
    ∃ e, search parse s t rank k ns (some f) = .error e := by
  unfold search
  split
  · exact ⟨_, rfl⟩
  · simp [h]

theorem C10_reserved_filter_refused_batchDelete (parse : String → Option Nat) (s : S) (t : Tn) (f : Filter)
    (ns : String) (h : mentionsReserved f = true) :
    Srv.batchDeleteFilter parse s t f ns = (s, .error .invalidArgument) := by
  rw [batchDeleteFilter_eq, if_pos h]

abbrev Hist := List (Tn × Req)

/-- the answers tenant `a` receives while the history runs -/
def observed_by (a : Tn) (s : S) : Hist → List Resp
  | [] => []
  | (t, r) :: rest =>
    if t.idx = a.idx then (handle s t r).2 :: observed_by a (handle s t r).1 rest
    else observed_by a (handle s t r).1 rest

/-- the same history with every other tenant's requests removed -/
def purge (a : Tn) (h : Hist) : Hist := h.filter fun p => p.1.idx == a.idx

/-- **Non-interference** (Insert, Delete, UpdateMetadata, Query, BulkQuery, BatchDelete by ids — any
    mix, any length, colliding local ids, spoofed keys, any namespaces; BulkInsert and BulkLoadHnsw streams too): what tenant `a` observes in a
    history shared with any other tenants is exactly what it observes when their requests are removed
    — found / not-found answers, vectors, metadata, error codes, quota refusals and deleted counts
    included.  By unwinding: `handle_view` (output consistency + step consistency on the A-view),
    `handle_respects` (local respect).  BatchDelete by filter: `C10_noninterference_with_filter_deletes`.
    Search, BulkSearch, FlushHotTier and /usage are not in `Req`: see `C10_search_count_leak` and the replay oracle. -/
theorem C10_noninterference (a : Tn) (h : Hist) (hkey : ∀ p ∈ h, p.1.idx = a.idx → p.1 = a) :
    ∀ (s1 s2 : S), ViewEq a s1 s2 → observed_by a s1 h = observed_by a s2 (purge a h) := by
  induction h with
  | nil => intro _ _ _; rfl
  | cons p rest ih =>
    obtain ⟨t, r⟩ := p
    intro s1 s2 hv
    have hrest : ∀ q ∈ rest, q.1.idx = a.idx → q.1 = a := fun q hq => hkey q (List.mem_cons_of_mem _ hq)
    by_cases ht : t.idx = a.idx
    · cases hkey (t, r) (List.mem_cons_self ..) ht
      obtain ⟨e1, e2⟩ := handle_view hv r
      rw [purge, List.filter_cons, if_pos (beq_self_eq_true _), observed_by, if_pos rfl, observed_by, if_pos rfl, e1]
      exact congrArg _ (ih hrest _ _ e2)
    · rw [purge, List.filter_cons, if_neg (by simpa using ht), observed_by, if_neg ht]
      exact ih hrest _ _ ((handle_respects (fun e => ht e.symm) s1 r).symm.trans hv)

theorem C10_noninterference_from_start (a : Tn) (h : Hist) (dim : Nat)
    (hkey : ∀ p ∈ h, p.1.idx = a.idx → p.1 = a) :
    observed_by a { dim := dim } h = observed_by a { dim := dim } (purge a h) :=
  C10_noninterference a h hkey _ _ (ViewEq.refl a _)

abbrev HistF := List (Tn × ReqF)

def observed_byF (parse : String → Option Nat) (a : Tn) (s : S) : HistF → List Resp
  | [] => []
  | (t, r) :: rest =>
    if t.idx = a.idx then (handleF parse s t r).2 :: observed_byF parse a (handleF parse s t r).1 rest
    else observed_byF parse a (handleF parse s t r).1 rest

def purgeF (a : Tn) (h : HistF) : HistF := h.filter fun p => p.1.idx == a.idx

/-- **Non-interference including `BatchDelete` by ANY filter** (AND / OR / NOT / ranges / IN, any
    nesting; filters naming a server-owned key are refused): a filter delete walks the whole shared
    document list, so this holds on states that satisfy the invariant `Inv` (unique ids, every
    document in the id range of the tenant whose index it carries) — which every reachable state
    does (`C14_sequential`) and which both runs preserve (`handleF_inv`).  What tenant `a` observes
    — deleted counts of its filter deletes included — is what it observes with every other configured
    tenant's requests removed, and no filter of another tenant removes or changes a document of `a`. -/
theorem C10_noninterference_with_filter_deletes (parse : String → Option Nat) {ts : List Tn} (hts : Tenants ts)
    {a : Tn} (ha : a ∈ ts) (h : HistF) (hmem : ∀ p ∈ h, p.1 ∈ ts) :
    ∀ (s1 s2 : S), Inv ts s1 → Inv ts s2 → ViewEq a s1 s2 →
      observed_byF parse a s1 h = observed_byF parse a s2 (purgeF a h) := by
  induction h with
  | nil => intro _ _ _ _ _; rfl
  | cons p rest ih =>
    obtain ⟨t, r⟩ := p
    intro s1 s2 h1 h2 hv
    have htm : t ∈ ts := hmem (t, r) (List.mem_cons_self ..)
    have hrest : ∀ q ∈ rest, q.1 ∈ ts := fun q hq => hmem q (List.mem_cons_of_mem _ hq)
    by_cases ht : t.idx = a.idx
    · cases hts t htm a ha (Or.inl ht)
      obtain ⟨e1, e2⟩ := handleF_view parse hts htm h1 h2 hv r
      rw [purgeF, List.filter_cons, if_pos (beq_self_eq_true _), observed_byF, if_pos rfl, observed_byF, if_pos rfl, e1]
      exact congrArg _ (ih hrest _ _ (handleF_inv parse hts h1 htm r) (handleF_inv parse hts h2 htm r) e2)
    · rw [purgeF, List.filter_cons, if_neg (by simpa using ht), observed_byF, if_neg ht]
      exact ih hrest _ _ (handleF_inv parse hts h1 htm r) h2
        ((handleF_respects parse hts htm (fun e => ht e.symm) h1 r).symm.trans hv)

theorem C10_noninterference_with_filter_deletes_from_start (parse : String → Option Nat) {ts : List Tn}
    (hts : Tenants ts) {a : Tn} (ha : a ∈ ts) (h : HistF) (hmem : ∀ p ∈ h, p.1 ∈ ts) (dim : Nat) :
    observed_byF parse a { dim := dim } h = observed_byF parse a { dim := dim } (purgeF a h) :=
  C10_noninterference_with_filter_deletes parse hts ha h hmem _ _ (C14.C14_init dim) (C14.C14_init dim)
    (ViewEq.refl a _)

/-- **Every search result is the caller's**: own id range, stored index the caller's, the requested
    namespace, public metadata only — never another tenant's id, vector or metadata. -/
theorem C10_search_sound (parse : String → Option Nat) (s : S) (t : Tn) (rank : List Nat) (k : Nat)
    (ns : String) (f : Option Filter) (total : Nat) (res : List (Nat × Meta))
    (h : search parse s t rank k ns f = .ok (total, res)) (r : Nat × Meta) (hr : r ∈ res) :
    ∃ g d, g ∈ rank ∧ ownsGid t g = true ∧ alookup g s.docs = some d ∧ visible t ns d.md = true ∧
      r = (localOf g, strip d.md) := by
  unfold search at h
  split at h
  · cases h
  · rename_i plan _
    split at h
    · cases h
    simp only [Except.ok.injEq, Prod.mk.injEq] at h
    rw [← h.2] at hr
    obtain ⟨g, hg, hp⟩ := List.mem_filterMap.mp (List.mem_of_mem_take hr)
    obtain ⟨d, hown, hd, hv, _, _, hr⟩ := passes_eq_some.mp hp
    exact ⟨g, d, List.mem_of_mem_take hg, hown, hd, hv, hr⟩

/-- **Search isolation, partial**: when the candidate window covers every document of every tenant
    (`rank.length ≤ searchK`), a search answers exactly as on a server that holds only the caller's
    documents.  (Missing for the full statement: the window is cut BEFORE the tenant check.) -/
theorem C10_search_isolated_partial (parse : String → Option Nat) (s : S) (t : Tn) (rank : List Nat)
    (k : Nat) (ns : String) (f : Option Filter)
    (hwin : ∀ plan, validateSearch s.dim true k 0 (ns != "") f = .ok plan → rank.length ≤ plan.searchK) :
    search parse s t rank k ns f = searchAlone parse s t rank k ns f := by
  unfold searchAlone search
  split
  · rfl
  · rename_i plan hp
    split
    · rfl
    have h1 : rank.take plan.searchK = rank := List.take_of_length_le (hwin plan hp)
    have h2 : (rank.filter (ownsGid t)).take plan.searchK = rank.filter (ownsGid t) :=
      List.take_of_length_le (Nat.le_trans (List.length_filter_le _ _) (hwin plan hp))
    -- the post-filter itself refuses what the restriction of `rank` drops
    have h3 : (fun g => if ownsGid t g = true then passes parse s t ns f g else none) = passes parse s t ns f :=
      funext fun g => by cases hg : ownsGid t g <;> simp [passes, hg]
    rw [h1, h2, List.filterMap_filter, h3]

def tA : Tn := ⟨"7461", 0, "30", 10⟩
def tB : Tn := ⟨"7462", 1, "31", 10⟩
def docA : Doc := ⟨[0], [(kTenantId, "7461"), (kTenantIdx, "30")]⟩
def docB : Doc := ⟨[0], [(kTenantId, "7462"), (kTenantIdx, "31")]⟩

/-- what a client counts: (total_found, ids returned) -/
def observed (r : Except Err (Nat × List (Nat × Meta))) : Option (Nat × List Nat) :=
  r.toOption.map fun x => (x.1, x.2.map (·.1))

/-- **The full isolation statement is false for search** (of the model, and — replayed by
    `./check C10` — of the server): tenant A holds document 1; a k = 1 search returns it while A is
    alone, and returns NOTHING once tenant B stores a nearer vector: A's result count depends on
    B's data.  The k nearest are taken over all tenants, the tenant check runs afterwards. -/
theorem C10_search_count_leak :
    observed (search (fun _ => none) { dim := 1, docs := [(1, docA)] } tA [1] 1 "" none) = some (1, [1]) ∧
    observed (search (fun _ => none) { dim := 1, docs := [(1, docA), (limit32 + 1, docB)] } tA
      [limit32 + 1, 1] 1 "" none) = some (0, []) := by decide

/-- non-vacuity of the frame theorems: B really writes under the colliding local id, A still reads
    its own document -/
example : (Srv.insert { dim := 1 } tB 1 [5] [] "").2.toOption = some () ∧
    (readDoc (Srv.insert { dim := 1, docs := [(1, docA)] } tB 1 [5] [] "").1 tA 1 "").map (·.1) = some [0] := by
  decide

def sAB : S := { dim := 1, docs := [(1, docA), (limit32 + 1, docB)], counts := [(0, 1), (1, 1)] }

/-- non-vacuity: tenant B's NOT-filter (which matches every document that lacks the key) deletes
    B's own document and leaves A's; A then still reads its document -/
example :
    (Srv.batchDeleteFilter (fun _ => none) sAB tB (.not (some (.exact "colour" "red"))) "").2.toOption = some 1 ∧
    ((readDoc (handleF (fun _ => none) sAB tB (.bdFilter (.not (some (.exact "colour" "red"))) "")).1 tA 1 "").map (·.1))
      = some [0] := by
  decide

end KyroModel.C10
