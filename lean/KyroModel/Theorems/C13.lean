/-
C13 — Strict recovery never silently returns damaged state.

The fault classes one by one, the property as stated with its refutation, and the part that holds
(with the definitions they are stated in: `Holds`, `Covered`, `violates`).  `d` ranges over the
data directories left by ANY history
(`DInv d docs ns`, established for every reachable directory by `einv_pRun`), faults are the
`Damage` classes of `Persist/Damage.lean` — what the per-file readers report about the damaged
file (tie: `./check C13` feeds the real readers' view of every enumerated byte fault to this
model and compares the real strict start-up with `recoverAfter`).

The full statement `StrictDamageStatement` is FALSE of the code and of the model
(`C13_statement_false`, proved from the first of three witnesses; the other two,
`C13_witness_snapshot_fallback` and `C13_witness_manifest_pointer_lost`, are stated on their own
— known findings).  What is proved for every
history is `C13_partial`: every fault class the format can see is refused or harmless; and
`C13_silent_prefix_always_starts` shows the unseen class is accepted after every history, not
only in the witnesses.
-/
import KyroModel.Lemmas.Damage
import KyroModel.Lemmas.PersistHistory
import KyroModel.Lemmas.Codec

namespace KyroModel.C13

def Refuses (r : Except RecErr (Docs × Nat)) : Prop := ∃ e, r = .error e
def Yields (r : Except RecErr (Docs × Nat)) (docs : Docs) : Prop :=
  ∃ x mx, r = .ok (x, mx) ∧ MapEq x docs

/-- the property for one directory and one fault: start-up refuses, or yields exactly the
    pre-damage collection -/
def Holds (d : Disk) (docs : Docs) (dmg : Damage) : Prop :=
  Refuses (recoverAfter d dmg) ∨ Yields (recoverAfter d dmg) docs

/-! ### faults the format detects -/

theorem C13_manifest_removed (d : Disk) : recoverAfter d .manifestGone = .error .noManifest := rfl

theorem C13_manifest_unparsable (d : Disk) :
    recoverAfter d .manifestUnparsable = .error .manifestUnreadable := rfl

theorem C13_listed_segment_removed (d : Disk) (docs : Docs) (ns : Nat) (h : DInv d docs ns)
    (m : Manifest) (hm : d.manifest = some m) (n : Nat) (hn : n ∈ m.segs) :
    Refuses (recoverAfter d (.walGone n)) :=
  recover_bad_seg hm hn (Or.inl alookup_aerase_self)

/-- a listed segment cannot be opened (magic damaged, file shorter than the magic) -/
theorem C13_listed_segment_unopenable (d : Disk) (docs : Docs) (ns : Nat) (h : DInv d docs ns)
    (m : Manifest) (hm : d.manifest = some m) (n : Nat) (hn : n ∈ m.segs) :
    Refuses (recoverAfter d (.walOpenFails n)) := by
  obtain ⟨w, hw, _, _⟩ := (h.at hm).segs n hn
  show Refuses (recover (d.damage (.walOpenFails n)))
  rw [damage_walOpenFails hw]
  exact recover_bad_seg hm hn (Or.inr ⟨_, alookup_aset_self, Or.inl rfl⟩)

/-- the reader counts at least one frame of a listed segment as corrupted (checksum mismatch,
    undecodable payload, zero or oversized length) -/
theorem C13_listed_segment_corrupt_frames (d : Disk) (docs : Docs) (ns : Nat) (h : DInv d docs ns)
    (m : Manifest) (hm : d.manifest = some m) (n : Nat) (hn : n ∈ m.segs) (seqs : List Nat)
    (c : Nat) (hc : 0 < c) : Refuses (recoverAfter d (.walSees n seqs c)) := by
  obtain ⟨w, hw, _, _⟩ := (h.at hm).segs n hn
  show Refuses (recover (d.damage (.walSees n seqs c)))
  rw [damage_walSees seqs c hw]
  exact recover_bad_seg hm hn (Or.inr ⟨_, alookup_aset_self, Or.inr hc⟩)

/-- the pointed snapshot is removed or unreadable and the directory holds no other readable
    snapshot -/
theorem C13_pointed_snapshot_no_fallback (d : Disk) (m : Manifest) (hm : d.manifest = some m)
    (p : Nat) (hp : m.snap = some p) (hothers : ∀ k, k ≠ p → (alookup k d.snaps).join = none)
    (dmg : Damage) (hd : dmg = .snapGone p ∨ dmg = .snapUnreadable p) :
    recoverAfter d dmg = .error .snapshotUnreadable := by
  obtain ⟨ss, he, hp', hoff⟩ := recoverAfter_snapFault d hd
  have hall : ∀ k, (alookup k ss).join = none := fun k => by
    by_cases hk : k = p
    · exact hk ▸ hp'
    · rw [hoff k hk]; exact hothers k hk
  rw [he, recover_unfold (d := { d with snaps := ss }) hm]
  simp [snapStage, hp, loadSnapshot_none { d with snaps := ss } p hall]

/-! ### faults that touch nothing recovery reads -/

/-- any fault on a segment file the MANIFEST does not list -/
theorem C13_unlisted_segment_harmless (d : Disk) (docs : Docs) (ns : Nat) (h : DInv d docs ns)
    (m : Manifest) (hm : d.manifest = some m) (n : Nat) (hn : n ∉ m.segs) (dmg : Damage)
    (hd : dmg = .walGone n ∨ dmg = .walOpenFails n ∨ ∃ seqs c, dmg = .walSees n seqs c) :
    Yields (recoverAfter d dmg) docs := by
  have hun : ∀ m', d.manifest = some m' → n ∉ m'.segs := fun m' hm' => by cases hm.symm.trans hm'; exact hn
  obtain ⟨ws, he, hoff⟩ := recoverAfter_walFault d hd
  rw [Yields, he]
  exact recover_of_Rec ⟨ns, h.of_sameReferenced (sameReferenced_wals hoff hun)⟩

/-- any fault on a snapshot file the MANIFEST does not point to -/
theorem C13_unpointed_snapshot_harmless (d : Disk) (docs : Docs) (ns : Nat) (h : DInv d docs ns)
    (m : Manifest) (hm : d.manifest = some m) (k : Nat) (hk : m.snap ≠ some k) (dmg : Damage)
    (hd : dmg = .snapGone k ∨ dmg = .snapUnreadable k) : Yields (recoverAfter d dmg) docs := by
  have hun : ∀ m', d.manifest = some m' → m'.snap ≠ some k := fun m' hm' => by cases hm.symm.trans hm'; exact hk
  obtain ⟨ss, he, _, hoff⟩ := recoverAfter_snapFault d hd
  rw [Yields, he]
  exact recover_of_Rec ⟨ns, h.of_sameReferenced (sameReferenced_snaps hoff hun)⟩

/-! ### the fault class the format cannot see -/

/-- **After every history**, a listed segment that reads back as ANY subset of its frames with
    no frame counted as corrupted — what truncation at any length and many flips of a frame's
    length field produce (`C13_truncation_reads_clean`, `C13_length_past_eof_silent`) — lets strict
    start-up SUCCEED. -/
theorem C13_silent_prefix_always_starts (d : Disk) (docs : Docs) (ns : Nat) (h : DInv d docs ns)
    (n : Nat) (seqs : List Nat) : ∃ r mx, recoverAfter d (.walSees n seqs 0) = .ok (r, mx) := by
  obtain ⟨m, hm, g⟩ := h.exists
  show ∃ r mx, recover (d.damage (.walSees n seqs 0)) = .ok (r, mx)
  cases hl : alookup n d.wals with
  | none =>
    have : d.damage (.walSees n seqs 0) = d := by simp [Disk.damage, hl]
    rw [this]
    exact ⟨_, _, recover_eq hm g.segs g.snap⟩
  | some w =>
    rw [damage_walSees seqs 0 hl]
    exact ⟨_, _, recover_eq hm (segsOk_aset g.segs n rfl rfl) g.snap⟩

/-! ### the statement, its refutation, and the part that holds -/

/-- faults outside the property's exclusion ("loss confined to a truncated tail of the newest
    log segment"): at this level every frame-subset view of the LAST listed segment is excluded,
    which excludes more than the property does -/
def Admissible (d : Disk) : Damage → Prop
  | .walSees n _ 0 => ∀ m, d.manifest = some m → m.segs.getLast? ≠ some n
  | _ => True

/-- C13 as stated, over every history and every admissible fault -/
def StrictDamageStatement : Prop :=
  ∀ (cfg : PCfg) (ops : List POp), (∀ op ∈ ops, op.valid) → ∀ dmg,
    Admissible (pRun cfg ops).2 dmg → Holds (pRun cfg ops).2 (pRun cfg ops).1.store.docs dmg

def recIdsAfter (d : Disk) (dmg : Damage) (ids : List Nat) : Option (List Bool) :=
  match recoverAfter d dmg with
  | .ok (docs, _) => some (ids.map fun id => (alookup id docs).isSome)
  | .error _ => none

def pointedSnap (d : Disk) : Nat := ((d.manifest.bind (·.snap))).getD 0

/-- W1 (KF-C13-wal-silent-prefix): rotation after every frame; the first, no longer newest,
    segment reads back empty (truncated to its magic / length field of its frame flipped):
    start-up succeeds without document 1 -/
theorem C13_witness_old_segment_prefix :
    let ops : List POp := [.insert 1 [10] [] .yes 60 52, .insert 2 [20] [] .yes 60 52]
    let d := (pRun ⟨0, 1, 10⟩ ops).2
    (d.manifest.map (·.segs), recIdsAfter d (.walSees 0 [] 0) [1, 2]) =
      (some [0, 1, 2], some [false, true]) := by decide

/-- W2 (KF-C13-snapshot-fallback): two snapshots, the second compacted the segment holding
    document 2; the newest snapshot becomes unreadable: start-up falls back to the older one and
    succeeds without document 2 -/
theorem C13_witness_snapshot_fallback :
    let ops : List POp := [.insert 1 [10] [] .yes 60 52, .snapshot, .insert 2 [20] [] .yes 60 52, .snapshot]
    let d := (pRun ⟨0, 1, 10⟩ ops).2
    (recIdsAfter d (.snapUnreadable (pointedSnap d)) [1, 2], recIdsAfter d (.snapGone (pointedSnap d)) [1, 2])
      = (some [true, false], some [true, false]) := by decide

/-- W3 (KF-C13-manifest-unchecksummed): the MANIFEST parses, but without its snapshot pointer
    (one flipped bit in the key): start-up succeeds from the remaining segments alone -/
theorem C13_witness_manifest_pointer_lost :
    let ops : List POp := [.insert 1 [10] [] .yes 60 52, .snapshot, .insert 2 [20] [] .yes 60 52]
    let d := (pRun ⟨0, 1, 10⟩ ops).2
    (d.manifest.map fun m => recIdsAfter d (.manifestIs { m with snap := none }) [1, 2])
      = some (some [false, true]) := by decide

/-- decidable refutation of `Holds`: start-up succeeds and some id of `ids` is present in one of
    recovered / pre-damage collection but not in the other -/
def violates (d : Disk) (live : Docs) (dmg : Damage) (ids : List Nat) : Bool :=
  match recoverAfter d dmg with
  | .ok (docs, _) => ids.any fun id => (alookup id docs).isSome != (alookup id live).isSome
  | .error _ => false

theorem not_holds_of_violates (d : Disk) (live : Docs) (dmg : Damage) (ids : List Nat)
    (h : violates d live dmg ids = true) : ¬ Holds d live dmg := by
  unfold violates at h
  rintro (⟨e, he⟩ | ⟨x, mx, hx, heq⟩)
  · rw [he] at h; cases h
  · rw [hx] at h
    obtain ⟨id, _, hid⟩ := List.any_eq_true.mp h
    rw [heq id, bne_self_eq_false] at hid
    cases hid

theorem C13_statement_false : ¬ StrictDamageStatement := by
  intro h
  have hv : ∀ op ∈ ([.insert 1 [10] [] .yes 60 52, .insert 2 [20] [] .yes 60 52] : List POp), op.valid := by
    intro op hop
    simp only [List.mem_cons, List.not_mem_nil, or_false] at hop
    rcases hop with rfl | rfl <;> simp [POp.valid]
  have hA : Admissible (pRun ⟨0, 1, 10⟩ [.insert 1 [10] [] .yes 60 52, .insert 2 [20] [] .yes 60 52]).2
      (.walSees 0 [] 0) := by
    intro m hm
    have hw := C13_witness_old_segment_prefix
    simp only [hm, Option.map_some, Prod.mk.injEq, Option.some.injEq] at hw
    rw [hw.1]
    decide
  exact not_holds_of_violates _ _ _ [1, 2] (by decide) (h ⟨0, 1, 10⟩ _ hv (.walSees 0 [] 0) hA)

/-- fault classes the format detects or that touch nothing recovery reads -/
def Covered (d : Disk) (m : Manifest) : Damage → Prop
  | .manifestGone => True
  | .manifestUnparsable => True
  | .manifestIs _ => False
  | .walGone _ => True
  | .walOpenFails _ => True
  | .walSees n _ c => 0 < c ∨ n ∉ m.segs
  | .snapGone k => m.snap ≠ some k ∨ ∀ j, j ≠ k → (alookup j d.snaps).join = none
  | .snapUnreadable k => m.snap ≠ some k ∨ ∀ j, j ≠ k → (alookup j d.snaps).join = none

/-- **C13, the part that holds, for every history**: removal of the MANIFEST or of any segment,
    an unparsable MANIFEST, an unopenable segment, any segment in which the reader sees a
    corrupted frame, any fault on unlisted segments or unpointed snapshots, and loss of the pointed
    snapshot when no older one is readable — start-up refuses or yields exactly the pre-damage
    collection. -/
theorem C13_partial (d : Disk) (docs : Docs) (ns : Nat) (h : DInv d docs ns) (m : Manifest)
    (hm : d.manifest = some m) (dmg : Damage) (hc : Covered d m dmg) : Holds d docs dmg := by
  cases dmg with
  | manifestGone => exact Or.inl ⟨_, C13_manifest_removed d⟩
  | manifestUnparsable => exact Or.inl ⟨_, C13_manifest_unparsable d⟩
  | manifestIs _ => exact hc.elim
  | walGone n =>
    by_cases hn : n ∈ m.segs
    · exact Or.inl (C13_listed_segment_removed d docs ns h m hm n hn)
    · exact Or.inr (C13_unlisted_segment_harmless d docs ns h m hm n hn _ (Or.inl rfl))
  | walOpenFails n =>
    by_cases hn : n ∈ m.segs
    · exact Or.inl (C13_listed_segment_unopenable d docs ns h m hm n hn)
    · exact Or.inr (C13_unlisted_segment_harmless d docs ns h m hm n hn _ (Or.inr (Or.inl rfl)))
  | walSees n seqs c =>
    by_cases hn : n ∈ m.segs
    · rcases hc with hc | hc
      · exact Or.inl (C13_listed_segment_corrupt_frames d docs ns h m hm n hn seqs c hc)
      · exact (hc hn).elim
    · exact Or.inr (C13_unlisted_segment_harmless d docs ns h m hm n hn _ (Or.inr (Or.inr ⟨seqs, c, rfl⟩)))
  | snapGone k =>
    by_cases hk : m.snap = some k
    · rcases hc with hc | hc
      · exact (hc hk).elim
      · exact Or.inl ⟨_, C13_pointed_snapshot_no_fallback d m hm k hk hc _ (Or.inl rfl)⟩
    · exact Or.inr (C13_unpointed_snapshot_harmless d docs ns h m hm k hk _ (Or.inl rfl))
  | snapUnreadable k =>
    by_cases hk : m.snap = some k
    · rcases hc with hc | hc
      · exact (hc hk).elim
      · exact Or.inl ⟨_, C13_pointed_snapshot_no_fallback d m hm k hk hc _ (Or.inr rfl)⟩
    · exact Or.inr (C13_unpointed_snapshot_harmless d docs ns h m hm k hk _ (Or.inr rfl))

/-- …instantiated at the directory left by any history -/
theorem C13_partial_reachable (cfg : PCfg) (ops : List POp) (hv : ∀ op ∈ ops, op.valid)
    (m : Manifest) (hm : (pRun cfg ops).2.manifest = some m) (dmg : Damage)
    (hc : Covered (pRun cfg ops).2 m dmg) :
    Holds (pRun cfg ops).2 (pRun cfg ops).1.store.docs dmg :=
  C13_partial _ _ _ (einv_pRun cfg hv).dinv m hm dmg hc

/-- non-vacuity: a reachable directory with a snapshot, three listed segments, and covered faults
    of both kinds (refused / harmless) -/
example :
    let ops : List POp := [.insert 1 [10] [] .yes 60 52, .snapshot, .insert 2 [20] [] .yes 60 52]
    let d := (pRun ⟨0, 1, 10⟩ ops).2
    (recIdsAfter d (.walGone 3) [1, 2], recIdsAfter d (.walGone 0) [1, 2],
     recIdsAfter d (.walSees 3 [] 1) [1, 2]) = (none, some [true, true], none) := by decide

/-! ### byte level: which damage produces which view (`Persist/Codec.lean`) -/
open KyroModel.Codec in
theorem C13_codec_roundtrip (crc : Bytes → Nat) (ps : List Bytes) (hv : ∀ p ∈ ps, Valid crc p) :
    readFile crc (encodeFile crc ps) = some ⟨ps, 0⟩ :=
  readFile_encodeFile hv

open KyroModel.Codec in
/-- **byte-level root of KF-C13-wal-silent-prefix**: a segment body cut at ANY length reads as a
    clean segment holding a prefix of its frames -/
theorem C13_truncation_reads_clean (crc : Bytes → Nat) (ps : List Bytes)
    (hv : ∀ p ∈ ps, Valid crc p) (k fuel : Nat) (hf : ps.length ≤ fuel) :
    ∃ j, j ≤ ps.length ∧ scan crc fuel ((encode crc ps).take k) = ⟨ps.take j, 0⟩ :=
  scan_truncated hv k hf

open KyroModel.Codec in
/-- a frame whose stored checksum does not match its payload (flipped payload or checksum bit,
    given that the checksum function tells the two payloads apart) is counted as corrupted —
    hence refused by `C13_listed_segment_corrupt_frames` -/
theorem C13_checksum_mismatch_counted (crc : Bytes → Nat) (pre : List Bytes)
    (hv : ∀ p ∈ pre, Valid crc p) (q : Bytes) (c : Nat) (hq : 0 < q.length ∧ q.length ≤ maxEntry)
    (hc : c < 4294967296) (hbad : c ≠ crc q) (tail : Bytes) (fuel : Nat) :
    0 < (scan crc (pre.length + (fuel + 1))
          (encode crc pre ++ (le32 q.length ++ q ++ le32 c ++ tail))).corrupted :=
  scan_checksum_mismatch hv hq hc hbad tail fuel

open KyroModel.Codec in
/-- **byte-level root of the length-field findings**: a length value within the size limit that
    runs past the end of the file ends the scan with nothing counted, in any segment -/
theorem C13_length_past_eof_silent (crc : Bytes → Nat) (pre : List Bytes)
    (hv : ∀ p ∈ pre, Valid crc p) (len : Nat) (h0 : 0 < len) (hmax : len ≤ maxEntry) (rest : Bytes)
    (hr : rest.length < len + 4) (fuel : Nat) :
    scan crc (pre.length + fuel) (encode crc pre ++ (le32 len ++ rest)) = ⟨pre, 0⟩ :=
  scan_length_past_eof hv h0 hmax hr fuel

/-- non-vacuity of the byte-level hypotheses -/
example : Codec.Valid (fun _ => 7) [1, 2, 3] := ⟨by decide, by decide, by decide⟩

end KyroModel.C13
