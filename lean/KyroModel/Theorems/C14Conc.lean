/-
C14, concurrent half — the step-level protocol of one tenant's quota around ONE document id.

`Insert` = exists-check (+ reservation when the id is new), then the engine write; `Delete` = the
engine delete (which reports whether it removed something), then the decrement.  Threads interleave
at step granularity.  WITHOUT a common lock the count drifts (`C14_unlocked_delete_drifts`: the
schedule `./check C14` found on the pre-fix server); WITH the per-tenant quota lock held across each
whole operation (fix 9bf38f7) every schedule is a sequential history, and sequential histories keep
count = live (`C14_locked_schedules_exact`).  Tie to the code: the schedule exploration of
`./check C14` on the real handlers (every final state counted = live = usage).
-/
import KyroModel.Base.Assoc

namespace KyroModel.C14.Conc

structure St where
  live : Bool          -- is the document stored?
  count : Nat          -- vectors counted against the quota (for this id: 0 or 1 when exact)
deriving DecidableEq, Repr

/-- per thread: what its exists-check / its engine delete observed -/
abbrev Locals := List (Nat × Bool)

def getL (l : Locals) (i : Nat) : Bool := ((l.find? (·.1 == i)).map (·.2)).getD false
def setL (l : Locals) (i : Nat) (b : Bool) : Locals := (i, b) :: l.filter (·.1 != i)

inductive Step
  | insCheck (i : Nat)     -- enforce_vector_quota: exists? ; if not, reserve one slot
  | insWrite (i : Nat)     -- engine.insert
  | delRemove (i : Nat)    -- engine.delete -> existed
  | delDec (i : Nat)       -- if existed: decrement
deriving DecidableEq, Repr

/-- `insCheck` records what it saw in its local slot as `delRemove` does, but `insWrite` never reads it: only a
    delete's second step depends on its first -/
def step (s : St) (l : Locals) : Step → St × Locals
  | .insCheck i => (if s.live then s else { s with count := s.count + 1 }, setL l i s.live)
  | .insWrite _ => ({ s with live := true }, l)
  | .delRemove i => ({ s with live := false }, setL l i s.live)
  | .delDec i => (if getL l i then { s with count := s.count - 1 } else s, l)

def run (s : St) (l : Locals) : List Step → St
  | [] => s
  | x :: xs => run (step s l x).1 (step s l x).2 xs

def Exact (s : St) : Prop := s.count = if s.live then 1 else 0

/-- **Without a common lock**: an overwrite's exists-check, then a whole delete, then the
    overwrite's write — one live document, nothing counted. -/
theorem C14_unlocked_delete_drifts :
    run ⟨true, 1⟩ [] [.insCheck 0, .delRemove 1, .delDec 1, .insWrite 0] = ⟨true, 0⟩ := by decide

/-- the discipline the quota lock enforces: a schedule is a concatenation of whole operations -/
inductive Locked : List Step → Prop
  | nil : Locked []
  | insert (i : Nat) {rest : List Step} : Locked rest → Locked (.insCheck i :: .insWrite i :: rest)
  | delete (i : Nat) {rest : List Step} : Locked rest → Locked (.delRemove i :: .delDec i :: rest)

/-- **With the lock held across each whole operation, every schedule keeps count = live.** -/
theorem C14_locked_schedules_exact (sched : List Step) (h : Locked sched) :
    ∀ (s : St) (l : Locals), Exact s → Exact (run s l sched) := by
  induction h with
  | nil => intro s l hs; exact hs
  | insert i _ ih =>
    -- a whole insert: a slot is reserved iff the document was absent, then the document is there
    rintro ⟨live, count⟩ l hs
    refine ih _ _ ?_
    cases live
    · show count + 1 = 1
      rw [show count = 0 from hs]
    · exact hs
  | delete i _ ih =>
    -- a whole delete: the decrement sees what the removal saw
    rintro ⟨live, count⟩ l hs
    refine ih _ _ ?_
    show Exact (if getL (setL l i live) i then ⟨false, count - 1⟩ else ⟨false, count⟩)
    rw [show getL (setL l i live) i = live by
      unfold getL setL; rw [cons_filter_bne_eq_aset, find?_fst_eq_alookup, alookup_aset_self]; rfl]
    cases live
    · exact hs
    · show count - 1 = 0
      rw [show count = 1 from hs]

/-- non-vacuity: a locked schedule mixing both operations of two threads -/
example : Locked [.insCheck 0, .insWrite 0, .delRemove 1, .delDec 1, .delRemove 0, .delDec 0, .insCheck 1, .insWrite 1] :=
  .insert 0 (.delete 1 (.delete 0 (.insert 1 .nil)))

end KyroModel.C14.Conc
