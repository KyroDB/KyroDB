/-
C07, schedule half — "a result computed before a write is never stored after that write's
invalidation", at the level of the ENGINE's steps.

Any number of writing and searching threads interleave at step granularity.  A write is two steps:
the store changes (`wWrite`), the query cache is invalidated (`wInval`: the generation advances and
the affected entry is removed); a cacheable search is three: read the generation (`sGen`), compute
the result from the store as it is (`sCompute`), store it if the generation is unchanged
(`sStore`, re-checked under the cache's lock).  Steps of a thread that are out of program order are
ignored, so "every list of steps" is "every interleaving".

* `C07_write_then_invalidate_is_fresh`: with the order write → invalidate (what
  `TieredEngine::insert/delete/...` do), after ANY interleaving the cached entry lags the store by at
  most the writes still in flight; once no write is in flight it was computed from the current
  store.
* `C07_invalidate_then_write_goes_stale`: with the order reversed (`writeFirst := false`) a search
  between the two steps stores a pre-write result that nothing removes.

Tie to the code: `./check C07` explores the real engine (one writer against one cacheable search,
every schedule at lock granularity) and compares, afterwards, the cacheable search with the same
search past the cache.
-/
import KyroModel.Base.Assoc

namespace KyroModel.C07.Conc

/-- where a searching thread stands: nothing held, the generation `g` it read, or that and the
    store version `r` its result was computed from -/
inductive SPc
  | idle
  | gotGen (g : Nat)
  | computed (g r : Nat)
  deriving DecidableEq, Repr

structure St where
  /-- true: store first, then invalidate; false: the reversed order -/
  writeFirst : Bool
  ver : Nat := 0                 -- number of writes the store reflects
  gen : Nat := 0                 -- invalidation generation of the query cache
  entry : Option Nat := none     -- the cached entry: the store version it was computed from
  inflight : Nat := 0            -- writes whose first step ran and whose second step has not
  wpc : List (Nat × Bool) := []  -- per writer: is it between its two steps?
  spc : List (Nat × SPc) := []   -- per searcher: what it holds
  deriving Repr

-- per-thread slots as association lists: absent = `false` / `.idle`, a write shadows older ones
def getW (l : List (Nat × Bool)) (i : Nat) : Bool := ((l.find? (·.1 == i)).map (·.2)).getD false
def setW (l : List (Nat × Bool)) (i : Nat) (b : Bool) : List (Nat × Bool) := (i, b) :: l.filter (·.1 != i)
def getS (l : List (Nat × SPc)) (i : Nat) : SPc := ((l.find? (·.1 == i)).map (·.2)).getD .idle
def setS (l : List (Nat × SPc)) (i : Nat) (p : SPc) : List (Nat × SPc) := (i, p) :: l.filter (·.1 != i)

inductive Step
  | wWrite (i : Nat)
  | wInval (i : Nat)
  | sGen (i : Nat)
  | sCompute (i : Nat)
  | sStore (i : Nat)
  deriving DecidableEq, Repr

def doWrite (s : St) : St := { s with ver := s.ver + 1 }
def doInval (s : St) : St := { s with gen := s.gen + 1, entry := none }

-- `inflight - 1` is truncated subtraction; harmless, the branch requires `getW = true`, i.e. a first
-- step of that writer has added 1
def step (s : St) : Step → St
  | .wWrite i =>
    if s.writeFirst then
      (if getW s.wpc i then s else { doWrite s with inflight := s.inflight + 1, wpc := setW s.wpc i true })
    else
      (if getW s.wpc i then { doWrite s with inflight := s.inflight - 1, wpc := setW s.wpc i false } else s)
  | .wInval i =>
    if s.writeFirst then
      (if getW s.wpc i then { doInval s with inflight := s.inflight - 1, wpc := setW s.wpc i false } else s)
    else
      (if getW s.wpc i then s else { doInval s with inflight := s.inflight + 1, wpc := setW s.wpc i true })
  | .sGen i => { s with spc := setS s.spc i (.gotGen s.gen) }
  | .sCompute i =>
    match getS s.spc i with
    | .gotGen g => { s with spc := setS s.spc i (.computed g s.ver) }
    | _ => s
  | .sStore i =>
    match getS s.spc i with
    | .computed g r => { s with entry := if s.gen = g then some r else s.entry, spc := setS s.spc i .idle }
    | _ => s

def run (s : St) (steps : List Step) : St := steps.foldl step s

theorem getS_setS (l : List (Nat × SPc)) (i j : Nat) (p : SPc) :
    getS (setS l i p) j = if j = i then p else getS l j := by
  unfold getS setS
  rw [cons_filter_bne_eq_aset, find?_fst_eq_alookup, find?_fst_eq_alookup, alookup_aset]
  split <;> rfl

/-- what a searcher holds is consistent with the cache and the store.  The last clause is the whole
    argument: a result computed under the CURRENT generation lags the store by at most the writes
    in flight, because every completed write has advanced the generation. -/
def SOk (s : St) : SPc → Prop
  | .idle => True
  | .gotGen g => g ≤ s.gen
  | .computed g r => g ≤ s.gen ∧ r ≤ s.ver ∧ (g = s.gen → s.ver ≤ r + s.inflight)

/-- The cached entry is held to the same standard as a result a searcher computed under the
    current generation: that is what `sStore` turns into the entry. -/
structure Inv (s : St) : Prop where
  writeFirst : s.writeFirst = true
  entry : ∀ r, s.entry = some r → SOk s (.computed s.gen r)
  searchers : ∀ i, SOk s (getS s.spc i)

theorem inv_init : Inv { writeFirst := true } :=
  ⟨rfl, (fun _ h => nomatch h), fun _ => trivial⟩

theorem SOk.mono {s s' : St} {p : SPc} (h : SOk s p) (hg : s.gen ≤ s'.gen) (hv : s.ver ≤ s'.ver)
    (hl : s'.gen = s.gen → ∀ r, s.ver ≤ r + s.inflight → s'.ver ≤ r + s'.inflight) : SOk s' p := by
  cases p with
  | idle => trivial
  | gotGen g => exact Nat.le_trans h hg
  | computed g r =>
    obtain ⟨h1, h2, h3⟩ := h
    refine ⟨Nat.le_trans h1 hg, Nat.le_trans h2 hv, fun e => ?_⟩
    have hgen : s'.gen = s.gen := Nat.le_antisymm (e ▸ h1) hg
    exact hl hgen r (h3 (e.trans hgen))

theorem Inv.set {s : St} (h : Inv s) (i : Nat) {p : SPc} (hp : SOk s p) {e : Option Nat}
    (he : ∀ r, e = some r → SOk s (.computed s.gen r)) :
    Inv { s with entry := e, spc := setS s.spc i p } :=
  ⟨h.writeFirst, he, fun j => by
    show SOk s (getS (setS s.spc i p) j)
    rw [getS_setS]
    split
    · exact hp
    · exact h.searchers j⟩

theorem inv_step {s : St} (h : Inv s) (x : Step) : Inv (step s x) := by
  cases x with
  | wWrite i =>
    rw [show step s (.wWrite i) = _ from if_pos h.writeFirst]
    split
    · exact h
    · -- version and lag budget advance together
      have hm {p} (hp : SOk s p) :
          SOk { doWrite s with inflight := s.inflight + 1, wpc := setW s.wpc i true } p :=
        hp.mono (Nat.le_refl _) (Nat.le_succ _) fun _ _ => Nat.succ_le_succ
      exact ⟨h.writeFirst, fun r hr => hm (h.entry r hr), fun j => hm (h.searchers j)⟩
  | wInval i =>
    rw [show step s (.wInval i) = _ from if_pos h.writeFirst]
    split
    · -- the generation advances: nothing a searcher holds was read under the new one
      exact ⟨h.writeFirst, (fun _ hr => nomatch hr), fun j =>
        (h.searchers j).mono (Nat.le_succ _) (Nat.le_refl _) fun e => absurd e (Nat.succ_ne_self _)⟩
    · exact h
  | sGen i => exact h.set i (p := .gotGen s.gen) (Nat.le_refl _) h.entry
  | sCompute i =>
    have hs := h.searchers i
    rw [step]
    generalize getS s.spc i = p at hs ⊢
    cases p with
    | gotGen g =>
      exact h.set i (p := .computed g s.ver) ⟨hs, Nat.le_refl _, fun _ => Nat.le_add_right ..⟩ h.entry
    | _ => exact h
  | sStore i =>
    have hs := h.searchers i
    rw [step]
    generalize getS s.spc i = p at hs ⊢
    cases p with
    | computed g r =>
      refine h.set i (p := .idle) trivial fun r' hr' => ?_
      split at hr'
      · rename_i hgen
        cases hr'
        exact hgen ▸ hs
      · exact h.entry r' hr'
    | _ => exact h

theorem inv_run (steps : List Step) {s : St} (h : Inv s) : Inv (run s steps) :=
  List.foldlRecOn steps step h fun _ hs x _ => inv_step hs x

/-- **Write, then invalidate.**  After ANY interleaving of any number of writers and cacheable
    searches, the cached entry was computed from a store at most `inflight` writes behind — and once
    no write is in flight (every write has been acknowledged) it was computed from the current store. -/
theorem C07_write_then_invalidate_is_fresh (steps : List Step) (r : Nat)
    (h : (run { writeFirst := true } steps).entry = some r) :
    (run { writeFirst := true } steps).ver ≤ r + (run { writeFirst := true } steps).inflight ∧
    ((run { writeFirst := true } steps).inflight = 0 → r = (run { writeFirst := true } steps).ver) := by
  obtain ⟨_, hold, hlag⟩ := (inv_run steps inv_init).entry r h
  have hlag := hlag rfl
  exact ⟨hlag, fun h0 => by omega⟩

/-- **Invalidate, then write** (`writeFirst := false`): a search between the two steps stores the
    pre-write result under the already-advanced generation; nothing removes it: no write in flight,
    store at version 1, cached entry computed from version 0. -/
theorem C07_invalidate_then_write_goes_stale :
    let s := run { writeFirst := false } [.wInval 0, .sGen 1, .sCompute 1, .sStore 1, .wWrite 0]
    s.entry = some 0 ∧ s.ver = 1 ∧ s.inflight = 0 := by decide

/-- non-vacuity: with the right order the same interleaving leaves a fresh entry or none; and a
    search entirely after the write caches the current version -/
example :
    (run { writeFirst := true } [.wWrite 0, .sGen 1, .sCompute 1, .sStore 1, .wInval 0]).entry = none ∧
    (run { writeFirst := true } [.wWrite 0, .wInval 0, .sGen 1, .sCompute 1, .sStore 1]).entry = some 1 := by decide

end KyroModel.C07.Conc
