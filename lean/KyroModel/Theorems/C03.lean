/-
C03 — A write that reports failure changes nothing, now or after restart.

Model: `KyroModel/Persist/{Model,Ops}.lean`; tie: the `persist`
correspondence run of `./check C03` (every invalid-input class on the durable write path, with
kill-point enumeration so that "after restart" is evaluated by the real `recover`), plus the
storage-fault enumeration of the FS shim (errno × n-th call × short writes).

Proved: the input-refusal half (every refusal happens before anything is logged, so neither the
live nor the recovered collection moves) and "acknowledged ⇒ recoverable".  The storage-fault
half is decided by fault enumeration against the implementation (DESIGN.md §3, C03).
-/
import KyroModel.Theorems.C02

namespace KyroModel.C03

/-- **A refused insert / overwrite issues no file-system action and leaves the live documents
    untouched** — wrong dimension, zero norm, non-finite or overflowing vectors (refused by the
    pre-flight since fix d09e19e), index full, degraded backend.  The proof does not use the
    invariant `h`: every refusal is decided before anything is logged. -/
theorem C03_refused_insert_noop (e : PEng) (d : Disk) (h : EInv e d) (id : Nat) (v : List Nat)
    (m : MetaMap) (acc : Accept) (fl fd : Nat) (hacc : acc ≠ .index)
    (hfail : (pInsert e d id v m acc fl fd).2.2 ≠ .ok) :
    (pInsert e d id v m acc fl fd).1.store.docs = e.store.docs ∧
    (pInsert e d id v m acc fl fd).2.1 = [] :=
  (pInsert_shape e d id v m fl fd hacc).result.2 hfail

/-- same for delete, metadata update and batch delete (again `h` is not used) -/
theorem C03_refused_others_noop (e : PEng) (d : Disk) (h : EInv e d) :
    (∀ id fl, (pDelete e d id fl).2.2 ≠ .bool true →
      (pDelete e d id fl).1.store.docs = e.store.docs ∧ (pDelete e d id fl).2.1 = []) ∧
    (∀ id md fl, (pUpdate e d id md fl).2.2 ≠ .bool true →
      (pUpdate e d id md fl).1.store.docs = e.store.docs ∧ (pUpdate e d id md fl).2.1 = []) ∧
    (∀ ids fl, (pBatchDelete e d ids fl).2.2 = .err →
      (pBatchDelete e d ids fl).1.store.docs = e.store.docs ∧ (pBatchDelete e d ids fl).2.1 = []) :=
  ⟨fun id fl => (pDelete_shape e d id fl).result.2,
   fun id md fl => (pUpdate_shape e d id md fl).result.2,
   fun ids fl hf => (pBatchDelete_spec e d ids fl).2.1 fun _ hc => nomatch hf.symm.trans hc⟩

/-- **The same for every operation**: one that answers `rejected`, `full` or `err` has issued no
    action (the directory is byte-for-byte what it was) and holds the live documents it held.  It
    is stated at the state a history reaches, but holds at any state, with no invariant
    (`pStep_refused`; `hv` is not used).  That the directory recovers to those documents is
    `C03_ack_implies_recoverable`. -/
theorem C03_failed_write_changes_nothing (cfg : PCfg) (ops : List POp) (hv : ∀ op ∈ ops, op.valid)
    (op : POp) (hop : op.valid)
    (hfail : (pStep (pRun cfg ops).1 (pRun cfg ops).2 op).2.2 = .rejected ∨
             (pStep (pRun cfg ops).1 (pRun cfg ops).2 op).2.2 = .full ∨
             (pStep (pRun cfg ops).1 (pRun cfg ops).2 op).2.2 = .err) :
    (pStep (pRun cfg ops).1 (pRun cfg ops).2 op).1.store.docs = (pRun cfg ops).1.store.docs ∧
    (pStep (pRun cfg ops).1 (pRun cfg ops).2 op).2.1 = [] :=
  pStep_refused hop hfail

/-- **An operation is acknowledged only if it is recoverable**: at the moment any operation
    returns, strict recovery of the directory yields exactly the live documents (so an
    acknowledged write is in it), after any history. -/
theorem C03_ack_implies_recoverable (cfg : PCfg) (ops : List POp) (hv : ∀ op ∈ ops, op.valid) :
    ∃ r mx, recover (pRun cfg ops).2 = .ok (r, mx) ∧ MapEq r (pRun cfg ops).1.store.docs :=
  C02.C02_recover_eq_live cfg ops hv

/-- the full statement for the one code path the proof excludes, kept visible: a refusal by the
    ANN index *after* the log append (`Accept.index`) -/
def IndexRejectStatement : Prop :=
  ∀ (e : PEng) (d : Disk), EInv e d → ∀ id v m fl fd,
    ∃ r mx, recover (d.applyAll (pInsert e d id v m .index fl fd).2.1) = .ok (r, mx) ∧
      MapEq r e.store.docs

def recHas (d : Disk) (id : Nat) : Option Bool :=
  match recover d with
  | .ok (docs, _) => some (alookup id docs).isSome
  | .error _ => none

/-- …and why it is excluded: in the model of that path the compensating Delete entry erases the
    previous version on replay (this was reachable with a NaN overwrite before fix d09e19e; the
    correspondence run reports how often `accept=index` is observed — 0 since the fix).  The
    witness is a reachable state on which the conclusion of `IndexRejectStatement` fails; the
    negation of that statement is not stated. -/
theorem C03_index_reject_witness :
    let ops : List POp := [.insert 1 [10] [] .yes 60 52]
    let e := (pRun ⟨0, 0, 10⟩ ops).1
    let d := (pRun ⟨0, 0, 10⟩ ops).2
    (e.store.has 1, recHas (d.applyAll (pInsert e d 1 [99] [] .index 60 52).2.1) 1)
      = (true, some false) := by decide

end KyroModel.C03
