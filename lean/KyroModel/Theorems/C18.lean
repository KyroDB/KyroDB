/-
C18 — Unsafe durability and exposure settings are refused outside benchmark mode.

The property (`Safe`, hand-written), its proof from the generated `validate`, the refusals as
corollaries, and witnesses.  `KyroModel/Config/Generated.lean` is REGENERATED from the current
`engine/src/config.rs` by translators/xlate_config.py on every run of `./check C18`; the
theorems below are then re-checked against what `KyroDbConfig::validate` says now.  Second tie:
the generated `validate` is run against the real `KyroDbConfig::load` on the full cross product
of the safety-relevant settings × delivery (TOML, YAML, environment overrides).
-/
import KyroModel.Config.Generated

namespace KyroModel.C18
open KyroModel.Config

/-- what an accepted configuration must satisfy (hand-written, from the property) -/
def Safe (a : Atoms) : Prop :=
  ((a.env = .production ∨ a.env = .pilot) →
      a.fsyncNone = false ∧ a.snapZero = false ∧ a.recoveryBestEffort = false ∧
      a.strategyLearned = true) ∧
  (a.env = .pilot →
      a.authEnabled = true ∧ a.rateLimitEnabled = true ∧ a.obsAuthOn = true ∧ a.freshStart = false ∧
      (a.tlsEnabled = true ∨ a.grpcLoopback = true)) ∧
  ((a.env = .production ∧ a.grpcLoopback = false) → a.authEnabled = true)

/-- **Every accepted configuration is safe** — for all values of every other setting (the
    opaque atoms `a.other n` are universally quantified), for every environment string (after
    the code's own trim + lower-casing). -/
theorem C18_validate_sound (a : Atoms) (h : validate a = true) : Safe a := by
  have hn : (namedGuards a).all id = true := by
    unfold validate at h; exact (Bool.and_eq_true _ _ ▸ h).1
  clear h
  -- the guards as propositions, once; each clause of `Safe` then fixes the environment, under which
  -- the guards that survive are that clause
  simp [namedGuards] at hn
  refine ⟨fun he => ?_, fun he => ?_, fun he => ?_⟩
  · rcases he with he | he <;> simp_all
  · simp_all
  · simp_all

/-- an unknown environment string is rejected outright (so "production or pilot" cannot be
    dodged by a third spelling) -/
theorem C18_unknown_environment_rejected (a : Atoms) (h : a.env = .other) : validate a = false := by
  -- the first guard is the environment check itself
  unfold validate namedGuards
  rw [List.all_cons, h]
  rfl

/-- the two literal lists the translator extracted from `is_loopback_host` are `::1`, `localhost`
    and the prefix `127.` (a statement about the lists, not about the test that uses them) -/
theorem C18_loopback_literals :
    loopbackEquals = ["::1", "localhost"] ∧ loopbackPrefixes = ["127."] := by decide

/-! ### The refusals, stated outright

Contrapositives of `C18_validate_sound`, one per clause of the property: each holds for every
value of every other setting (all the other atoms, named and opaque, are universally
quantified), so no combination of the remaining settings can buy an unsafe one back. -/

/-- production or pilot with fsync disabled, snapshots disabled, best-effort recovery or a
    non-learned cache strategy is refused -/
theorem C18_durability_refused (a : Atoms) (henv : a.env = .production ∨ a.env = .pilot)
    (hbad : a.fsyncNone = true ∨ a.snapZero = true ∨ a.recoveryBestEffort = true ∨
            a.strategyLearned = false) : validate a = false :=
  Bool.eq_false_iff.mpr fun hv => by
    have h := (C18_validate_sound a hv).1 henv
    rcases hbad with h1 | h1 | h1 | h1 <;> simp_all

/-- pilot without authentication, rate limiting, protected observability endpoints, with
    fresh-start-after-failed-recovery, or with neither TLS nor a loopback bind is refused -/
theorem C18_pilot_exposure_refused (a : Atoms) (henv : a.env = .pilot)
    (hbad : a.authEnabled = false ∨ a.rateLimitEnabled = false ∨ a.obsAuthOn = false ∨
            a.freshStart = true ∨ (a.tlsEnabled = false ∧ a.grpcLoopback = false)) :
    validate a = false :=
  Bool.eq_false_iff.mpr fun hv => by
    have h := (C18_validate_sound a hv).2.1 henv
    rcases hbad with h1 | h1 | h1 | h1 | ⟨h1, h2⟩ <;> simp_all

/-- production on a non-loopback bind without authentication is refused -/
theorem C18_production_open_bind_refused (a : Atoms) (henv : a.env = .production)
    (hbind : a.grpcLoopback = false) (hauth : a.authEnabled = false) : validate a = false :=
  Bool.eq_false_iff.mpr fun hv => by
    have h := (C18_validate_sound a hv).2.2 ⟨henv, hbind⟩
    simp_all

/-- `a` with the four durability settings, the fresh-start flag and the bind class replaced -/
def withDurability (a : Atoms) (f s r l fr g : Bool) : Atoms :=
  { a with fsyncNone := f, snapZero := s, recoveryBestEffort := r, strategyLearned := l,
           freshStart := fr, grpcLoopback := g }

/-- benchmark mode is the only escape: there the four durability settings, the fresh-start flag
    and the bind class do not enter the verdict at all -/
theorem C18_benchmark_ignores_durability (a : Atoms) (henv : a.env = .benchmark)
    (f s r l fr g : Bool) : validate (withDurability a f s r l fr g) = validate a := by
  have hp : (Env.benchmark == Env.pilot) = false := by decide
  have hq : (Env.benchmark == Env.production) = false := by decide
  have hplain : plainGuards (withDurability a f s r l fr g) = plainGuards a := rfl
  unfold validate
  rw [hplain]
  unfold namedGuards withDurability
  simp [henv, hp, hq]

/-! ### Witnesses: both directions are non-vacuous -/

def benign (env : Env) : Atoms :=
  { env := env, strategyLearned := true, fsyncNone := false, snapZero := false,
    recoveryBestEffort := false, authEnabled := true, rateLimitEnabled := true, obsAuthOn := true,
    freshStart := false, tlsEnabled := false, grpcLoopback := true, httpLoopback := true,
    other := benignOther }

/-- a safe pilot configuration is accepted (the hypothesis of the theorem is satisfiable)… -/
example : validate (benign .pilot) = true := by decide
/-- …and flipping one safety setting gets it rejected -/
example : validate { (benign .pilot) with fsyncNone := true } = false := by decide
example : validate { (benign .production) with snapZero := true } = false := by decide
example : validate { (benign .pilot) with grpcLoopback := false } = false := by decide
/-- benchmark mode may disable them -/
def benchUnsafe : Atoms :=
  { env := .benchmark, strategyLearned := false, fsyncNone := true, snapZero := true,
    recoveryBestEffort := true, authEnabled := false, rateLimitEnabled := false, obsAuthOn := false,
    freshStart := true, tlsEnabled := false, grpcLoopback := false, httpLoopback := false,
    other := benignOther }
example : validate benchUnsafe = true := by decide

end KyroModel.C18
