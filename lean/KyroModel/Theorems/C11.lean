/-
C11 — Metadata filters select exactly the matching documents.

Property statements, the operation alphabet `SOp` / `applySOp` that `C11_reachable` quantifies
over, and the proof of the filtered batch delete (`C11_filtered_delete_exact`).  Models: `KyroModel/Store/{Filter,DocStore}.lean`, tied to
engine/src/{metadata_filter,hnsw_backend}.rs by the `store` correspondence run of `./check C11`
(real `ids_for_metadata_filter` vs real `scan(matches)` vs the model, on every filter).
-/
import KyroModel.Lemmas.StoreInv
import KyroModel.Lemmas.OpInvariants

namespace KyroModel.C11
open DocStore

/-- **The ordered index key is strictly monotone** for the model's `f64lt` and collapses exactly
    `f64eq`, for every bit pattern (±0, ±inf included; the range hypotheses are not used): a
    `BTreeMap` range scan over the keys equals the float comparison of the reference semantics.
    NaN matters only for what the comparison means (`Bound.cmpNum` answers `false` first). -/
theorem C11_orderedKey_strictMono (a b : Nat) (ha : a < 2 ^ 64) (hb : b < 2 ^ 64) :
    (f64lt a b = true ↔ orderedKey a < orderedKey b) ∧
    (f64eq a b = true ↔ orderedKey a = orderedKey b) :=
  orderedKey_strictMono a b

/-- **The key never leaves 64 bits** (for every input, in range or not): the unbounded-`Nat`
    arithmetic of the model (`+ 2^63`, `2^64 − 1 − b`) stays inside what the code's `u64` bit
    operations (`bits ^ sign-mask`, `!bits`) can represent, so no wrap-around is hidden by modelling
    `u64` as `Nat`; and the two half-ranges do not overlap: non-negative floats map to
    `[2^63, 2^64)`, negative ones to `[0, 2^63)`. -/
theorem C11_orderedKey_fits (a : Nat) :
    orderedKey a < 2 ^ 64 ∧
    ((if a % 2 ^ 63 = 0 then 0 else a % 2 ^ 64) / 2 ^ 63 = 0 ↔ 2 ^ 63 ≤ orderedKey a) := by
  unfold orderedKey
  simp only [beq_iff_eq]
  -- of the canonicalised bits only `< 2^64` matters (holes in the pattern: elaborating the `if`
  -- written out again is slower than the rest of the proof)
  generalize hbeq : ite (a % _ = 0) _ _ = b
  have hb : b < 2 ^ 64 := by
    rw [← hbeq]
    split
    · exact Nat.two_pow_pos 64
    · exact Nat.mod_lt _ (Nat.two_pow_pos 64)
  rw [two_pow_64] at hb ⊢
  rw [two_pow_63]
  clear hbeq
  by_cases h : b < signBit
  · simp only [Nat.div_eq_of_lt h, ↓reduceIte, true_iff]
    omega
  · have : b / signBit ≠ 0 := Nat.pos_iff_ne_zero.mp (Nat.div_pos (Nat.le_of_not_lt h) signBit_pos)
    simp only [this, ↓reduceIte, false_iff]
    omega

section
-- `hp` is part of the fixed statements below; the proofs do not use it (the key is monotone for
-- every bit pattern)
variable (parse : String → Option Nat) (hp : ∀ s x, parse s = some x → x < 2 ^ 64)
include hp

/-- **Index evaluation is exact for every filter tree** — exact / in-list / range with any
    bound string (numeric, NaN, ±inf, non-numeric, empty) / and / or / not, nested to any depth,
    all empty forms — in every index state satisfying the store invariant. -/
theorem C11_compile_correct (s : DocStore) (hs : SI parse s) (f : Filter) (b : List Nat)
    (hc : compile parse s.idx f = some b) (i : Nat) :
    i ∈ b ↔ liveAt s.slots i = true ∧ matchesF parse f (mdAt s.slots i) = true :=
  compile_correct hs.idx (uniq_mdAt hs.uniq) f b hc i

/-- **The selected id set is exactly the set of live documents the metadata of whose live slot
    satisfies the reference semantics** — on the compiled path and on the scan fallback alike. -/
theorem C11_ids_exact (s : DocStore) (hs : SI parse s) (f : Filter) (id : Nat) :
    id ∈ s.idsForFilter parse f ↔
      ∃ sl ∈ s.slots, sl.ext = some id ∧ matchesF parse f sl.md = true := by
  unfold idsForFilter
  split
  · rename_i b hc
    simp only [List.mem_filterMap, List.mem_eraseDups, List.mem_mergeSort, List.mem_filter,
      List.contains_eq_mem, decide_eq_true_eq, C11_compile_correct parse hp s hs f b hc,
      hs.idx.alive _]
    constructor
    · rintro ⟨i, ⟨⟨_, hm⟩, _⟩, hext⟩
      obtain ⟨sl, hg, hsl⟩ := Option.bind_eq_some_iff.mp hext
      exact ⟨sl, List.mem_of_getElem? hg, hsl, by rwa [mdAt_of_getElem? hg] at hm⟩
    · rintro ⟨sl, hsl, hext, hm⟩
      obtain ⟨i, hg⟩ := List.getElem?_of_mem hsl
      have hl : liveAt s.slots i = true := by rw [liveAt_of_getElem? hg, hext]; rfl
      exact ⟨i, ⟨⟨hl, by rwa [mdAt_of_getElem? hg]⟩, hl⟩, by rw [hg]; exact hext⟩
  · exact mem_scan s id

omit hp in
theorem C11_scan_exact (s : DocStore) (f : Filter) (id : Nat) :
    id ∈ s.scan (matchesF parse f) ↔
      ∃ sl ∈ s.slots, sl.ext = some id ∧ matchesF parse f sl.md = true :=
  mem_scan s id

end

/-- the operations that change a `DocStore` (the arguments the in-memory paths receive) -/
inductive SOp where
  | insert (id : Nat) (v : List Nat) (m : MetaMap)
  | delete (id : Nat)
  | batchDelete (ids : List Nat)
  | updateMeta (id : Nat) (m : MetaMap)
  | compact

/-- metadata handed to the store has unique keys -/
def SOp.wf : SOp → Prop
  | .insert _ _ m => UniqueKeys m
  | .updateMeta _ m => UniqueKeys m
  | _ => True

section
variable (parse : String → Option Nat)

def applySOp (s : DocStore) : SOp → DocStore
  | .insert id v m => (s.insert parse id v m).1
  | .delete id => (s.delete parse id).1
  | .batchDelete ids => (s.batchDelete parse ids).1
  | .updateMeta id m => (s.updateMeta parse id m).1
  | .compact => s.compact parse

/-- **The store invariant holds in every reachable state**: after any sequence of inserts,
    overwrites, metadata replacements (merges arrive already merged), deletes, batch deletes
    with duplicates, index-full compactions and explicit tombstone compactions — and, because
    recovery rebuilds the store by the same insert path from an empty store, after recovery. -/
theorem C11_reachable (cap : Nat) (ops : List SOp) (hw : ∀ op ∈ ops, op.wf) :
    SI parse (ops.foldl (applySOp parse) (DocStore.empty cap)) :=
  List.foldlRecOn ops _ (si_empty parse cap) fun s h op hop => by
    have hwf := hw op hop
    cases op with
    | insert id v m => exact si_insert id v h hwf
    | delete id => exact si_delete id h
    | batchDelete ids => exact si_batchDelete ids h
    | updateMeta id m => exact si_updateMeta id h hwf
    | compact => exact si_compact h

end

/-- **A filtered batch delete removes exactly the matching documents** (tiered engine,
    `batch_delete_by_metadata_filter`): afterwards a document is gone iff it was live and its
    *canonical* metadata satisfied the filter; every other document is untouched — whatever the
    recent-write mirror holds (stale metadata after a bulk load included), in every state where
    mirrored documents are canonical (`HotSubCold`: kept by every admissible history, see
    `applyOps_refines` in `Lemmas/OpInvariants`).
    `deleteByFilter` mirrors the code as of /repo commit a9c821f, which re-checks hot-tier candidates
    against canonical metadata (known_findings.json `fixed`; the input that separates the two
    versions is corpus/C11/stale_mirror_filtered_delete.ops). -/
theorem C11_filtered_delete_exact {D : Type} [DecidableEq D] (parse : String → Option Nat)
    (s : TState D) (f : Filter) (hs : HotSubCold s) (hn : AKeysNodup s.cold) (j : Nat) :
    alookup j (deleteByFilter parse s f).1.cold =
      match alookup j s.cold with
      | some d => if matchesF parse f d.md then none else some d
      | none => none := by
  unfold deleteByFilter
  rw [((batchDelete_stepSpec s _).refines hs trivial).1, specStep, Cold.alookup_foldl_delete]
  have hcold := mem_coldFilterIds parse hn f j
  -- the hot-tier scan adds nothing: a mirrored candidate has a canonical record (`hs`) and is kept
  -- only if that record matches too
  have hhot : j ∈ hotFilterIds parse s f → j ∈ coldFilterIds parse s.cold f := by
    intro hh
    simp only [hotFilterIds, List.mem_filter, List.mem_map] at hh
    obtain ⟨⟨p, ⟨hm, _⟩, rfl⟩, hcan⟩ := hh
    obtain ⟨d, hl⟩ := (mem_akeys_iff p.1 s.cold).mp (hs p.1 (List.mem_map_of_mem hm))
    rw [hl] at hcan
    exact hcold.mpr ⟨d, hl, hcan⟩
  have hmem : j ∈ dedupSorted (hotFilterIds parse s f ++ coldFilterIds parse s.cold f) ↔
      ∃ d, alookup j s.cold = some d ∧ matchesF parse f d.md = true := by
    rw [mem_dedupSorted, List.mem_append, or_iff_right_of_imp hhot, hcold]
  cases hl : alookup j s.cold with
  | none => exact ite_self _
  | some d =>
    rw [hl] at hmem
    simp only [hmem.trans ⟨fun ⟨_, e, h⟩ => Option.some.inj e ▸ h, fun h => ⟨d, rfl, h⟩⟩]

/-- a reachable store, a nested filter with a numeric range, a NOT and an empty OR: the index
    path and the scan select the same slots / documents -/
example :
    let parse : String → Option Nat := fun s =>
      if s == "1" then some 0x3FF0000000000000 else if s == "2" then some 0x4000000000000000 else none
    let s := [SOp.insert 1 [0] [("a", "1")], .insert 2 [0] [("a", "2")], .insert 3 [0] [("a", "x")],
              .insert 1 [0] [("a", "2"), ("b", "1")], .delete 3].foldl (applySOp parse) (DocStore.empty 10)
    let f := Filter.and [.range "a" (some (.gte "2")), .not (some (.or []))]
    (compile parse s.idx f, s.scan (matchesF parse f)) = (some [1, 3], [2, 1]) := by decide

end KyroModel.C11
