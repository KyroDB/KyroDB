/-
C06 — Search results are sound and reflect acknowledged recent writes.

The theorems about the merge, the coherence filter and the widening scan, with a counterexample
and a witness; the lemmas are in `Lemmas/Knn.lean`.  Model: `Tiered/Knn.lean`.  What each tier
returns for the query — the exhaustive scan of the recent-write tier (its whole content, in scan
order) and the ANN tier's answer — is universally quantified: the theorems hold whatever the
heuristic graph search returns.  Tie: `./check C06` asks the real tiers for exactly those lists,
the real engine for its answer, and compares.

* `C06_at_most_k`, `C06_distinct`, `C06_sorted`: at most k distinct documents in non-decreasing
  distance order;
* `C06_every_result_is_a_tier_answer`: every returned (document, distance) pair is the recent-write
  tier's candidate for that document, or — only when that tier has none for it — the ANN tier's;
* `C06_results_exist`: every returned document exists now (recent-write candidates are checked
  against the canonical token; the ANN tier answers with live documents only — hypothesis `hcold`,
  the tombstone filter of `HnswBackend::knn_search`, exercised by the run);
* `C06_stale_mirror_never_served`: a candidate whose mirror does not match the canonical token
  (overwritten or deleted since) is never served from the recent-write tier;
* `C06_recent_write_present`: a document of the recent-write tier whose mirror is canonical is in
  the result unless the result already holds k documents none of which is farther than it —
  over the tier's WHOLE content, however many stale mirrors rank in front of it (the widening scan
  `hot_knn_canonical`; `C06_cut_before_filter_loses_recent_write` is the counterexample for a
  single cut, `cutThenFilter`, what the engine did before commit a638c4f).
-/
import KyroModel.Lemmas.Knn

namespace KyroModel.C06
open Knn

theorem C06_at_most_k (hot cold : List Cand) (k : Nat) : (mergeKnn hot cold k).length ≤ k :=
  List.length_take_le k _

theorem C06_distinct (hot cold : List Cand) (k : Nat) :
    ((mergeKnn hot cold k).map (·.id)).Nodup :=
  NodupIds.sublist ((perm_sortCands.map _).nodup_iff.mpr (dedup_nodup hot cold))
    (List.take_sublist k _)

theorem C06_sorted (hot cold : List Cand) (k : Nat) :
    (mergeKnn hot cold k).Pairwise (fun a b => a.key ≤ b.key) :=
  (List.Pairwise.sublist (List.take_sublist k _) (sorted_sortCands (dedup hot cold))).imp le_key

/-- hot first: a returned pair is the recent-write tier's, or the ANN tier's for a document the
    recent-write tier did not answer for -/
theorem C06_every_result_is_a_tier_answer (hot cold : List Cand) (k : Nat) (x : Cand)
    (hx : x ∈ mergeKnn hot cold k) : x ∈ hot ∨ (x ∈ cold ∧ x.id ∉ hot.map (·.id)) :=
  mem_dedup (mem_merge hx)

theorem filterHot_cold {D : Type} [DecidableEq D] (digest : Vec → D) (s : TState D) (hot : List Cand) :
    (filterHot digest s hot).1.cold = s.cold := by
  induction hot generalizing s with
  | nil => rfl
  | cons c rest ih =>
    rw [filterHot_cons]
    split
    · exact ih s
    · exact ih (discardHot s c.id)
    · exact ih s

theorem filterHot_drops_stale {D : Type} [DecidableEq D] (digest : Vec → D) (s : TState D)
    (c : Cand) (rest : List Cand) (h : HotDoc D)
    (hh : alookup c.id s.hot = some h)
    (hstale : canonicalState digest s.cold c.id h.vec h.tok ≠ .matched)
    (hnodup : c.id ∉ rest.map (·.id)) :
    c.id ∉ ((filterHot digest s (c :: rest)).2).map (·.id) := by
  intro hm
  obtain ⟨x, hx, hid⟩ := List.mem_map.mp hm
  refine hnodup (List.mem_map.mpr ⟨x, ?_, hid⟩)
  simp only [filterHot, hh] at hx
  split at hx
  · exact absurd ‹_› hstale
  all_goals exact (filterHot_kept hx).1

/-- **An acknowledged recent write is not missing.**  Quantified over the WHOLE content of the
    recent-write tier, stale mirrors included: `all` = every document of the tier in scan order
    (ascending distance, distinct ids) with the verdict of the canonical check.  A document whose
    mirror is canonical is in the result, or the result already holds k documents none of which is
    farther than it — however many stale mirrors rank in front of it, and for EVERY answer `cold`
    of the ANN tier. -/
theorem C06_recent_write_present (all : List (Cand × V)) (cold : List Cand) (k : Nat)
    (hnd : NodupIds (all.map (·.1)))
    (hsorted : (all.map (·.1)).Pairwise (fun a b => a.key ≤ b.key))
    (h : Cand) (hh : (h, V.matched) ∈ all) :
    h ∈ mergeKnn (widenF (all.length + 1) all (2 * k) (2 * k)).2 cold k ∨
      ((mergeKnn (widenF (all.length + 1) all (2 * k) (2 * k)).2 cold k).length = k ∧
        ∀ r ∈ mergeKnn (widenF (all.length + 1) all (2 * k) (2 * k)).2 cold k, r.key ≤ h.key) := by
  cases k with
  | zero => exact Or.inr ⟨rfl, fun _ hr => nomatch hr⟩
  | succ k =>
    have hk : k + 1 < 2 * (k + 1) := (Nat.lt_mul_iff_one_lt_left k.succ_pos).mpr Nat.one_lt_two
    rw [widenF_spec all (Nat.le_refl _) (Nat.lt_add_of_pos_left (Nat.zero_lt_of_lt hk))]
    exact merge_take_keeps_candidate cold hk (hnd.sublist (canon_sublist all))
      (hsorted.sublist (canon_sublist all)) (mem_canon.mpr hh)

/-- **The defect this theorem excludes** (`cutThenFilter`: cut the scan to 2k, filter afterwards):
    two stale mirrors in front displace the canonical recent write of document 3 from a k = 1
    search although nothing else is returned; the widening scan returns it. -/
theorem C06_cut_before_filter_loses_recent_write :
    let all : List (Cand × V) := [(⟨1, 1, 10⟩, .stale), (⟨2, 2, 20⟩, .stale), (⟨3, 3, 30⟩, .matched)]
    mergeKnn (cutThenFilter all 2) [] 1 = [] ∧
      mergeKnn (widenF (all.length + 1) all 2 2).2 [] 1 = [⟨3, 3, 30⟩] := by decide

/-- **Every returned document exists now.** -/
theorem C06_results_exist {D : Type} [DecidableEq D] (digest : Vec → D) (s : TState D)
    (scan cold : List Cand) (k : Nat) (hcold : ∀ c ∈ cold, (alookup c.id s.cold).isSome)
    (x : Cand) (hx : x ∈ (knnStep digest s scan cold k).2) : (alookup x.id s.cold).isSome := by
  rcases C06_every_result_is_a_tier_answer _ _ _ x hx with h | ⟨h, _⟩
  · exact verdict_matched digest s x (widen_annotate_sub h).2
  · exact hcold x h

/-- **A stale mirror is never served**: a document of the recent-write tier whose mirror does not
    match the canonical token and payload — overwritten past the mirror, or deleted — is not among
    the recent-write candidates handed to the merge, wherever it ranks in the scan. -/
theorem C06_stale_mirror_never_served {D : Type} [DecidableEq D] (digest : Vec → D) (s : TState D)
    (scan : List Cand) (k : Nat) (hnd : NodupIds scan) (c : Cand) (hc : c ∈ scan)
    (hstale : verdict digest s c ≠ .matched) :
    c.id ∉ ((widenF ((annotate digest s scan).length + 1) (annotate digest s scan) (2 * k) (2 * k)).2).map (·.id) := by
  intro hm
  obtain ⟨x, hx, hid⟩ := List.mem_map.mp hm
  obtain ⟨hxs, hv⟩ := widen_annotate_sub hx
  cases eq_of_id_eq hnd hxs hc hid
  exact hstale hv

/-- the recent-write tier's candidate for document 2 replaces the ANN tier's, document 3 comes from
    the ANN tier, and k = 2 cuts document 1, the farthest -/
example :
    mergeKnn [⟨2, 5, 50⟩] [⟨2, 6, 60⟩, ⟨3, 4, 40⟩, ⟨1, 9, 90⟩] 2 = [⟨3, 4, 40⟩, ⟨2, 5, 50⟩] := by decide

end KyroModel.C06
