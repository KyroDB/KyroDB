/-
C14 — Tenant vector quotas are exact.

The theorems of C14, one per write path, each proved here from the equation of its path (`Lemmas/Tenant.lean`) and the
preservation lemma of the move it makes (`Lemmas/TenantInv.lean`; BulkLoadHnsw: `Lemmas/TenantBulk.lean`).  Model: `Server/Tenant.lean`.  Tie: `./check C14` drives the real `kyrodb_server` binary: after write
histories near the limit it measures the count through admission (fresh inserts until
RESOURCE_EXHAUSTED), the live documents through a BulkQuery census, and `/usage`.

`Inv ts s`: unique global ids, every stored document lies in the id range of the tenant whose index it
carries, for every configured tenant the count used for admission equals its live documents, and
the count never exceeds the limit.

* `C14_*_exact`: every write path preserves `Inv` — insert / overwrite (engine refusal = failed
  write included), delete (absent ids, foreign namespaces), metadata update (cannot move a document
  to another tenant), batch delete by ids (duplicates, absent ids) and by filter, BulkInsert streams,
  the quota probe, and the start-up recount;
* `C14_sequential`: after ANY sequence of these operations by any configured tenants, from the empty
  server;
* `C14_never_over_limit`, `C14_not_refused_below_limit`: the consequences the property names.
* `C14_bulkLoad_exact`: BulkLoadHnsw's reserve / release arithmetic (duplicates inside the batch,
  rejected items, overwrites of existing ids);
* concurrent RPCs: the handlers' model here is sequential; `Theorems/C14Conc.lean` carries the step-level
  protocol around one id (`C14_unlocked_delete_drifts`: the pre-fix schedule; `C14_locked_schedules_exact`:
  with the quota lock held across each whole operation every schedule keeps count = live); the real
  handlers' schedules are explored by `./check C14`.
-/
import KyroModel.Lemmas.TenantBulk
import KyroModel.Theorems.C14Conc

namespace KyroModel.C14
open KyroModel.Srv

variable {ts : List Tn}

theorem C14_init (dim : Nat) : Inv ts { dim := dim } :=
  ⟨List.nodup_nil, fun _ h => (nomatch h), fun _ _ => rfl, fun _ _ => Nat.zero_le _⟩

/-- **Insert / overwrite / refused insert** -/
theorem C14_insert_exact (hts : Tenants ts) {s : S} (hi : Inv ts s) {t : Tn} (ht : t ∈ ts) (lid : Nat)
    (v : List Nat) (m : Meta) (ns : String) : Inv ts (Srv.insert s t lid v m ns).1 := by
  rcases insert_eq t lid v m ns with e | ⟨g, hg, e⟩
  · rw [e]; exact hi
  · rw [e]; exact insertCore_inv hts hi ht hg v m ns

/-- **Delete** (absent ids, foreign namespaces: nothing moves) -/
theorem C14_delete_exact (hts : Tenants ts) {s : S} (hi : Inv ts s) {t : Tn} (ht : t ∈ ts) (lid : Nat)
    (ns : String) : Inv ts (Srv.delete s t lid ns).1 := by
  rcases delete_eq t lid ns with e | ⟨g, _, e⟩
  · rw [e]; exact hi
  · rw [e]
    exact atDoc_fst hi fun d hd hv =>
      inv_remove hts hi ht hd (visible_matches hv) _ (by rw [docs_noteDeletes, docs_decCount])
        (by rw [count_noteDeletes, count_decCount_self]; rfl)
        fun t' ht' hne => (count_noteDeletes ..).trans (count_decCount_ne (idx_ne hts ht' ht hne))

/-- **Metadata update**: the stored tenant index survives merge and replace, so the document stays
    counted for the same tenant -/
theorem C14_update_exact (hts : Tenants ts) {s : S} (hi : Inv ts s) {t : Tn} (ht : t ∈ ts) (lid : Nat)
    (m : Meta) (mg : Bool) (ns : String) : Inv ts (Srv.updateMeta s t lid m mg ns).1 := by
  rcases updateMeta_eq t lid m mg ns with e | ⟨g, hg, e⟩
  · rw [e]; exact hi
  · rw [e]
    exact atDoc_fst hi fun d hd hv =>
      inv_store hts hi ht hg _ (beq_iff_eq.mpr (update_keeps_idx d.md m mg t.idxStr (visible_iff.mp hv).1)) _ rfl
        (by rw [hd]; rfl) (fun _ _ _ => rfl) (hi.bounded t ht)

/-- **Batch delete by ids** (duplicates, absent ids, other namespaces) -/
theorem C14_batchDeleteIds_exact (hts : Tenants ts) {s : S} (hi : Inv ts s) {t : Tn} (ht : t ∈ ts)
    (lids : List Nat) (ns : String) : Inv ts (Srv.batchDeleteIds s t lids ns).1 :=
  -- `fst_ite` applies to the un-unfolded RPC: its `let (s', n) := deleteMany …` reduces by structure eta
  fst_ite (fun _ => hi) fun _ =>
    inv_after_deleteMany hts hi ht fun _ hg => gid_filterMap_div (List.mem_filter.mp hg).1

theorem C14_batchDeleteFilter_exact (parse : String → Option Nat) (hts : Tenants ts) {s : S} (hi : Inv ts s)
    {t : Tn} (ht : t ∈ ts) (f : Filter) (ns : String) : Inv ts (Srv.batchDeleteFilter parse s t f ns).1 :=
  fst_ite (fun _ => hi) fun _ => inv_after_deleteMany hts hi ht (selected_in_range parse hts hi ht f ns)

theorem C14_bulkInsert_exact (hts : Tenants ts) {s : S} (hi : Inv ts s) {t : Tn} (ht : t ∈ ts)
    (items : List Item) : Inv ts (Srv.bulkInsert s t items).1 := by
  rw [bulkInsert_fst]
  exact List.foldlRecOn (motive := Inv ts) items _ hi fun s' h it _ => C14_insert_exact hts h ht it.lid it.vec it.md it.ns

/-- **BulkLoadHnsw**: validation drops items, the new ids (duplicates counted once) are reserved in
    one step or the whole call is refused, engine-refused items store nothing, and the unused part of
    the reservation is released: count = live again (`Lemmas/TenantBulk.lean`). -/
theorem C14_bulkLoad_exact (hts : Tenants ts) {s : S} (hi : Inv ts s) {t : Tn} (ht : t ∈ ts)
    (items : List Item) : Inv ts (Srv.bulkLoad s t items).1 := by
  obtain ⟨B, n, hB, e⟩ := bulkLoad_eq t items
  rw [e]
  exact loadBatch_inv hts hi ht hB n

theorem C14_probe_exact {s : S} (hi : Inv ts s) (t : Tn) : Inv ts (probe s t) := by
  unfold probe
  simp only
  split
  · exact hi
  · exact inv_same hi rfl (fun _ => rfl)

/-- **Start-up recount**: the count of every configured tenant is recomputed from the stored index -/
theorem C14_restart_exact (hts : Tenants ts) {s : S} (hi : Inv ts s) : Inv ts (restart s ts) := by
  have hcount : ∀ t ∈ ts, count (restart s ts) t = cnt t s.docs := fun t ht => by
    unfold count restart
    rw [alookup_map ht fun a ha e => by rw [hts a ha t ht (Or.inl e)]]
    rfl
  exact ⟨hi.keys, hi.owned, hcount, fun t ht => by rw [hcount t ht, ← hi.exact t ht]; exact hi.bounded t ht⟩

/-- every modelled operation of a configured tenant preserves the invariant -/
theorem C14_step_exact (parse : String → Option Nat) (hts : Tenants ts) {s : S} (hi : Inv ts s) (op : Op)
    (hop : ∀ t, op.tenant = some t → t ∈ ts) : Inv ts (step parse ts s op) := by
  cases op with
  | insert t lid v m ns => exact C14_insert_exact hts hi (hop t rfl) lid v m ns
  | delete t lid ns => exact C14_delete_exact hts hi (hop t rfl) lid ns
  | update t lid m mg ns => exact C14_update_exact hts hi (hop t rfl) lid m mg ns
  | bdIds t lids ns => exact C14_batchDeleteIds_exact hts hi (hop t rfl) lids ns
  | bdFilter t f ns => exact C14_batchDeleteFilter_exact parse hts hi (hop t rfl) f ns
  | bulkInsert t items => exact C14_bulkInsert_exact hts hi (hop t rfl) items
  | bulkLoad t items => exact C14_bulkLoad_exact hts hi (hop t rfl) items
  | probe t => exact C14_probe_exact hi t
  | restart => exact C14_restart_exact hts hi

/-- **C14, sequential histories**: after ANY sequence of inserts, overwrites, refused writes, deletes,
    metadata updates, batch deletes (ids / filter), BulkInsert streams, BulkLoadHnsw batches, quota probes
    and restarts by any configured tenants, the count used for admission equals the live documents of
    every tenant.  (Concurrent RPCs are outside this sequential model: `Theorems/C14Conc.lean` has the step-level
    protocol around one id, `./check C14` explores the real handlers' schedules.) -/
theorem C14_sequential (parse : String → Option Nat) (hts : Tenants ts) (dim : Nat) (ops : List Op)
    (hops : ∀ op ∈ ops, ∀ t, op.tenant = some t → t ∈ ts) :
    Inv ts (ops.foldl (step parse ts) { dim := dim }) :=
  List.foldlRecOn (motive := Inv ts) ops _ (C14_init dim) fun _ hi op hop =>
    C14_step_exact parse hts hi op (hops op hop)

/-- a tenant never holds more live documents than its limit -/
theorem C14_never_over_limit {s : S} (hi : Inv ts s) {t : Tn} (ht : t ∈ ts) : live s t ≤ t.maxv := by
  rw [live_eq_cnt, ← hi.exact t ht]; exact hi.bounded t ht

/-- and is never refused while below it: no insert by a tenant whose live documents are below its limit
    is answered RESOURCE_EXHAUSTED -/
theorem C14_not_refused_below_limit {s : S} (hi : Inv ts s) {t : Tn} (ht : t ∈ ts) (lid : Nat) (v : List Nat)
    (m : Meta) (ns : String) (hbelow : live s t < t.maxv) :
    (Srv.insert s t lid v m ns).2 ≠ .error .resourceExhausted := by
  have hc : ¬ t.maxv ≤ count s t := by rw [hi.exact t ht, ← live_eq_cnt]; omega
  rcases insert_eq t lid v m ns with e | ⟨g, _, e⟩
  · rw [e]; simp
  · rw [e, insertCore_eq, if_neg hc]
    by_cases hs : (alookup g s.docs).isSome = true <;> by_cases hv : v.length = s.dim <;> simp only [hs, hv] <;>
      exact fun h => nomatch h

def tA : Tn := ⟨"7461", 0, "30", 2⟩
def tB : Tn := ⟨"7462", 1, "31", 1⟩
example : Tenants [tA, tB] := by
  intro a ha b hb h
  simp only [List.mem_cons, List.mem_nil_iff, or_false] at ha hb
  rcases ha with rfl | rfl <;> rcases hb with rfl | rfl <;> first | rfl | (revert h; decide)

-- non-vacuity: two tenants with colliding local ids; B fills its limit of 1, is refused a second id, and a
-- delete gives the slot back
example :
    let s1 := (Srv.insert { dim := 1 } tB 1 [5] [] "").1
    let s2 := (Srv.insert s1 tA 1 [6] [] "").1
    count s2 tB = 1 ∧ live s2 tB = 1 ∧ count s2 tA = 1 ∧
    (Srv.insert s2 tB 2 [7] [] "").2.toOption = none ∧
    count (Srv.delete s2 tB 1 "").1 tB = 0 ∧ live (Srv.delete s2 tB 1 "").1 tB = 0 := by decide

end KyroModel.C14
