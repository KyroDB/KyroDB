/-
C12 — Restoring a backup reproduces the collection as of that backup.

Model: `Persist/Backup.lean` (behaviour after fixes b28ccd9 and
7c1da7a), tied to engine/src/backup.rs by the `persist` correspondence run of `./check C12`
(archive member lists, metadata, restore outcomes, prune decisions).

The exactness theorems hold for every data directory satisfying the disk invariant (`DInv`,
established for every reachable directory by `einv_pRun`) and the two listing facts of `Quiescent`
(no WAL file outside the MANIFEST's list; the list is ascending by file id — observed on every
`disk` listing of the correspondence run, not proved from the engine model).  The step for one
more incremental assumes in addition that the segments the incremental does NOT ship are the ones
already restored (`hold`: the engine only appends to its newest segment and the file's mtime
tells; modelled, not proved); its snapshot clause is exactly what fix b28ccd9 established.
Refusal of altered chains, the guarded clear and pruning (for every timeline and policy) are
proved of the model outright; of the point-in-time selection only that it starts at a full backup
not after the target time (`C12_pitr_starts_at_full_before`).
-/
import KyroModel.Lemmas.Backup
import KyroModel.Persist.Ops

namespace KyroModel.C12

/-- listing facts at a quiescent point -/
structure Quiescent (d : Disk) (m : Manifest) : Prop where
  noOrphans : ∀ n ∈ akeys d.wals, n ∈ m.segs
  ascending : Asc m.segs

/-- **A full backup restores exactly**: taken at any directory satisfying the invariant, restored
    alone into an empty target, strict start-up yields the collection at backup time. -/
theorem C12_full_restore_exact (d : Disk) (docs : Docs) (ns : Nat) (h : DInv d docs ns)
    (m : Manifest) (hm : d.manifest = some m) (hq : Quiescent d m) (ts : Nat) :
    ∃ b t r mx, fullBackup d ts = .ok b ∧ restoreBackup [b] 0 false false = .ok t ∧
      recover t = .ok (r, mx) ∧ MapEq r docs := by
  have g := h.at hm
  have hlisted : ∀ n ∈ m.segs, n ∈ akeys d.wals := fun n hn =>
    let ⟨w, hw, _⟩ := g.segs n hn; mem_akeys_of_alookup hw
  obtain ⟨sfs, hb, hbs, hpt⟩ := fullBackup_succeeds hm ts hlisted
    fun p hsn => let ⟨s, hsf⟩ := g.snap p hsn; ⟨_, hsf⟩
  -- nothing unlisted on disk, so the MANIFEST is shipped as it is, with exactly its segments
  rw [rewriteSegs_id hq.ascending fun n hn => hq.noOrphans n ((mem_sortAsc n).mp hn)] at hb
  obtain ⟨r, mx, hr, heq⟩ := recover_overlay (t := emptyDisk) h hm
    (b := mkFull d ts (some m) m.segs m.snap sfs) rfl rfl hbs
    (fun n hn hnot => by
      obtain ⟨w, hw, _⟩ := g.segs n hn
      exact absurd (List.mem_map.mpr ⟨(n, w), (mem_shipWals d m.segs (n, w)).mpr ⟨hn, hw⟩, rfl⟩) hnot)
    (fun p hsn hnot => absurd (hpt p hsn) hnot)
  exact ⟨_, _, r, mx, hb, restore_single rfl rfl rfl, hr, heq⟩

/-- **One more incremental restores exactly.**  `t` is the directory restored from the chain so
    far; `d` the data directory when the incremental `b` was taken.  If the listed segments `b`
    does not ship already read in `t` as they do in `d` (`hold`), then after extracting `b` over
    `t` strict start-up yields the collection of `d`.  The snapshot clause needs no hypothesis
    when `b` ships the snapshot; when it does not, `hsnap` says the chain already restored that
    very file — the condition under which the fixed code skips it. -/
theorem C12_incremental_step_exact (bs : List Backup) (d t : Disk) (docs : Docs) (ns : Nat)
    (h : DInv d docs ns) (m : Manifest) (hm : d.manifest = some m) (hq : Quiescent d m)
    (pi : Nat) (modified : Nat → Bool) (ts : Nat) (b : Backup)
    (hb : incrBackup bs d pi modified ts = .ok b)
    (hold : ∀ n ∈ m.segs, n ∉ b.wals.map (·.1) → alookup n t.wals = alookup n d.wals)
    (hsnap : b.snaps = [] → ∀ p, m.snap = some p → alookup p t.snaps = alookup p d.snaps) :
    ∃ r mx, recover (overlay t b) = .ok (r, mx) ∧ MapEq r docs := by
  obtain ⟨sel, sn, sfs, rfl, hsel, hbs, hpt⟩ := incrBackup_ok hm hb
  have hbm : (mkIncr d m pi ts sel sn sfs).manifest = some m :=
    congrArg (fun s => some ({ m with segs := s } : Manifest))
      (rewriteSegs_id hq.ascending fun n hn => hq.noOrphans n (hsel n hn))
  -- what is shipped of snapshots is the pointed one or nothing
  exact recover_overlay h hm hbm rfl hbs hold
    fun p hsn hnot => hsnap ((hpt p hsn).resolve_right hnot) p hsn

/-- **An altered member anywhere in the chain refuses the restore** — whatever the target holds
    and whether or not clearing was confirmed: the error is returned before the clear. -/
theorem C12_altered_chain_refused (bs : List Backup) (chain : List Nat) (i : Nat) (b : Backup)
    (hi : i ∈ chain) (hb : bs[i]? = some b) (hd : b.damaged = true) (nonEmpty allow : Bool) :
    restoreChain bs chain nonEmpty allow = .error .checksum := by
  unfold restoreChain
  have : (chain.any fun i => (bs[i]?.map fun b => b.damaged || b.gone).getD true) = true := by
    rw [List.any_eq_true]
    exact ⟨i, hi, by simp [hb, hd]⟩
  simp [this]

/-- **A non-empty target is never cleared without confirmation.** -/
theorem C12_no_clear_without_confirmation (bs : List Backup) (chain : List Nat) :
    ∀ t, restoreChain bs chain true false ≠ .ok t := by
  intro t
  unfold restoreChain
  split
  · simp
  · simp

/-- **Pruning never removes a backup that a retained backup depends on**: for every timeline,
    policy and clock reading, the parent of a kept backup is kept. -/
theorem C12_prune_keeps_ancestors (bs : List Backup) (hwf : ParentsBefore bs) (pol : Policy)
    (now i p : Nat) (b : Backup) (hi : i ∈ keptAfterPrune bs pol now) (hb : bs[i]? = some b)
    (hp : b.parent = some p) (hpres : p ∈ present bs) : p ∈ keptAfterPrune bs pol now := by
  obtain ⟨_, r, hr, hir⟩ := mem_keptAfterPrune.mp hi
  exact mem_keptAfterPrune.mpr
    ⟨hpres, r, hr, chainUp_closed hwf (r + 1) r (Nat.lt_succ_self r) i hir b p hb hp⟩

/-- `a` is reachable from `i` by following parent links (zero or more) -/
inductive Anc (bs : List Backup) : Nat → Nat → Prop
  | refl (i : Nat) : Anc bs i i
  | step {i p a : Nat} {b : Backup} : bs[i]? = some b → b.parent = some p → Anc bs p a → Anc bs i a

/-- **…nor any backup further up its chain**: the whole ancestry of a kept backup — parent,
    grandparent, … down to the full backup, any depth — is kept, as long as it was present before
    the prune (so a restore of any kept backup finds every member of its chain afterwards). -/
theorem C12_prune_keeps_whole_chain (bs : List Backup) (hwf : ParentsBefore bs) (pol : Policy)
    (now i a : Nat) (hi : i ∈ keptAfterPrune bs pol now) (hanc : Anc bs i a)
    (hpres : ∀ x, Anc bs i x → x ∈ present bs) : a ∈ keptAfterPrune bs pol now := by
  induction hanc with
  | refl i => exact hi
  | step hb hp _ ih =>
    have hpk := C12_prune_keeps_ancestors bs hwf pol now _ _ _ hi hb hp
      (hpres _ (Anc.step hb hp (Anc.refl _)))
    exact ih hpk (fun x hx => hpres x (Anc.step hb hp hx))

def mkB (full : Bool) (parent : Option Nat) (ts : Nat) : Backup :=
  { full := full, parent := parent, ts := ts, maxWal := none, snap := none, manifest := none,
    snaps := [], wals := [] }

/-- witness: full ← incremental ← incremental; only the newest is retained by the policy (the two
    older ones are past every horizon), and the whole chain survives the prune -/
def chain3 : List Backup := [mkB true none 0, mkB false (some 0) 10, mkB false (some 1) 1000000]

example : Anc chain3 2 0 :=
  .step (b := mkB false (some 1) 1000000) rfl rfl
    (.step (b := mkB false (some 0) 10) rfl rfl (.refl 0))
example : retained0 chain3 ⟨0, 0, 0, 0, 1⟩ 1000000 = [2] ∧
    keptAfterPrune chain3 ⟨0, 0, 0, 0, 1⟩ 1000000 = [0, 1, 2] := by decide

/-- …and what pruning deletes is exactly what it does not keep -/
theorem C12_pruned_iff_not_kept (bs : List Backup) (pol : Policy) (now i : Nat) :
    i ∈ prunedBy bs pol now ↔ i ∈ present bs ∧ i ∉ keptAfterPrune bs pol now := by
  simp [prunedBy, List.mem_filter]

/-- bucket winners and backups younger than the minimum age are kept -/
theorem C12_retained_kept (bs : List Backup) (pol : Policy) (now i : Nat)
    (h : i ∈ retained0 bs pol now) : i ∈ keptAfterPrune bs pol now :=
  mem_keptAfterPrune.mpr ⟨(List.mem_filter.mp h).1, i, h, List.mem_cons_self ..⟩

/-- **Point-in-time selection** starts at a full backup taken not after the target time. -/
theorem C12_pitr_starts_at_full_before (bs : List Backup) (t : Nat) (f : Nat) (rest : List Nat)
    (h : pitrChain bs t = .ok (f :: rest)) :
    ∃ b, bs[f]? = some b ∧ b.full = true ∧ b.ts ≤ t ∧ b.gone = false := by
  unfold pitrChain at h
  split at h
  · cases h
  · rename_i w hw
    simp only [Except.ok.injEq, List.cons.injEq] at h
    obtain ⟨rfl, _⟩ := h
    have := newestOf_mem hw
    simp only [List.mem_filter, presentIdx] at this
    obtain ⟨⟨_, hg⟩, hf⟩ := this
    cases hb : bs[w]? with
    | none => simp [hb] at hf
    | some b =>
      simp only [hb, Option.map_some, Option.getD_some, Bool.and_eq_true, decide_eq_true_eq,
        Bool.not_eq_eq_eq_not, Bool.not_true] at hf hg
      exact ⟨b, rfl, hf.1, hf.2, hg⟩

/-! ### non-vacuity and the repaired scenario, by evaluation -/

def recIds (r : Except BkErr Disk) (ids : List Nat) : Option (List Bool) :=
  match r with
  | .ok t => match recover t with
    | .ok (docs, _) => some (ids.map fun id => (alookup id docs).isSome)
    | .error _ => none
  | .error _ => none

/-- full backup, then a write, a snapshot that compacts the segment holding it, another write,
    an incremental: the incremental ships snapshot file 3, restoring the chain yields all three
    documents (before fix b28ccd9 the incremental shipped no snapshot and this restore did not
    start), restoring the full backup alone yields document 1 only -/
def repairedScenario : Bool :=
  let ops1 : List POp := [.insert 1 [10] [] .yes 60 52]
  let s1 := pRun ⟨0, 1, 10⟩ ops1
  let ops2 : List POp := ops1 ++ [.insert 2 [20] [] .yes 60 52, .snapshot, .insert 3 [30] [] .yes 60 52]
  let s2 := pRun ⟨0, 1, 10⟩ ops2
  match fullBackup s1.2 100 with
  | .error _ => false
  | .ok b0 =>
    match incrBackup [b0] s2.2 0 (fun _ => true) 200 with
    | .error _ => false
    | .ok b1 =>
      b1.snap == some 3 &&
      recIds (restoreBackup [b0, b1] 1 false false) [1, 2, 3] == some [true, true, true] &&
      recIds (restoreBackup [b0, b1] 0 false false) [1, 2, 3] == some [true, false, false]

example : repairedScenario = true := by decide

end KyroModel.C12
