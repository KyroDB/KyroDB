/-
C17 — Unchecked memory access in the SIMD kernels and packed graph storage stays in bounds.

Property statements, `dataLenAfter` (the length of `data` after `n` pushes) and the three lemmas
the bounds share (`recordWords_pos`, `dataLenAfter_eq`, `record_span`).  Both imported model files are REGENERATED from /repo's current
`simd.rs` / `ann_backend.rs` on every run:

* `Simd.Generated` holds one theorem per raw-pointer vector load of every `unsafe fn` kernel,
  each for EVERY slice length (so also every length that is not a multiple of the SIMD width);
  they are proved where they are generated (as instances of the three facts of `Lemmas/SimdBounds`), and this file only certifies that the
  translator understood every access it saw.
* `Simd.PackedGenerated` (namespace `KyroModel.Packed`) holds the index arithmetic of `PackedLevel0` and of the visited bitset as
  definitions; the bounds theorems over them are below.

Not modelled (partial): that every dense id handed to an `_unchecked` accessor is below the
node count is a graph-closure invariant of HNSW construction; the translator only lints that
each neighbour id read from a record is compared against `node_count` before use
(`C17_neighbour_ids_guarded`), and the fenced-allocator run exercises the rest.
-/
import KyroModel.Simd.Generated
import KyroModel.Simd.PackedGenerated

namespace KyroModel.C17
open KyroModel.Packed

/-- the SIMD translator resolved every raw access it found (fails closed otherwise) -/
theorem C17_simd_translation_complete : KyroModel.Simd.translatorProblems = [] := by decide

/-- the packed-layout translator resolved every expression it needed -/
theorem C17_packed_translation_complete : KyroModel.Packed.translatorProblems = [] := by decide

/-- a record is wide enough for its count word, its neighbour slots and its vector -/
theorem C17_record_fits (cap dimension : Nat) :
    vectorOffsetWords cap + dimension ≤ recordWords cap dimension := by
  unfold recordWords divCeil alignWords
  omega

theorem recordWords_pos (cap dimension : Nat) : 0 < recordWords cap dimension := by
  have := C17_record_fits cap dimension
  unfold vectorOffsetWords at this
  omega

/-- `data.len()` after `n` calls of `push_node` on an empty store -/
def dataLenAfter (rw : Nat) : Nat → Nat
  | 0 => 0
  | n + 1 => dataLenAfter rw n + pushGrowth rw

theorem dataLenAfter_eq (rw n : Nat) : dataLenAfter rw n = n * rw := by
  induction n with
  | zero => simp [dataLenAfter]
  | succ n ih => simp [dataLenAfter, ih, pushGrowth, Nat.add_mul]

/-- `len()` reports exactly the number of pushed nodes -/
theorem C17_len_exact (cap dimension n : Nat) :
    nodeLen (dataLenAfter (recordWords cap dimension) n) (recordWords cap dimension) = n := by
  rw [dataLenAfter_eq]
  unfold nodeLen
  exact Nat.mul_div_cancel n (recordWords_pos cap dimension)

/-- The one layout fact behind every record access: words `o .. o + k` of record `dense` lie in
`data` whenever they lie in the record (`o + k ≤ rw`) and the record is stored (`dense < n`). -/
private theorem record_span (rw n dense o k : Nat) (h : dense < n) (ho : o + k ≤ rw) :
    dense * rw + o + k ≤ dataLenAfter rw n := by
  have : (dense + 1) * rw ≤ n * rw := Nat.mul_le_mul_right rw h
  rw [dataLenAfter_eq]
  rw [Nat.add_mul, Nat.one_mul] at this
  omega

/-- the slice built by `vector_at_unchecked` lies inside `data`, for every dimension, every
neighbour capacity and every number of stored nodes -/
theorem C17_vector_in_bounds (cap dimension n dense : Nat) (h : dense < n) :
    vectorStart (recordWords cap dimension) (vectorOffsetWords cap) dense + vectorLen dimension
      ≤ dataLenAfter (recordWords cap dimension) n :=
  record_span _ n dense _ _ h (C17_record_fits cap dimension)

/-- the word read by `neighbor_unchecked` lies inside the record's neighbour slots: inside
`data`, and before the vector payload -/
theorem C17_neighbor_in_bounds (cap dimension n dense idx : Nat) (h : dense < n) (hi : idx < cap) :
    neighborIdx (recordWords cap dimension) dense idx < dataLenAfter (recordWords cap dimension) n ∧
    neighborIdx (recordWords cap dimension) dense idx
      < vectorStart (recordWords cap dimension) (vectorOffsetWords cap) dense := by
  have h1 := C17_record_fits cap dimension
  have h2 := record_span (recordWords cap dimension) n dense (1 + idx) 1 h
    (by unfold vectorOffsetWords at h1; omega)
  unfold neighborIdx vectorStart vectorOffsetWords
  omega

/-- the word read by `count_unchecked` lies inside `data` -/
theorem C17_count_in_bounds (cap dimension n dense : Nat) (h : dense < n) :
    countIdx (recordWords cap dimension) dense < dataLenAfter (recordWords cap dimension) n :=
  record_span _ n dense 0 1 h (recordWords_pos cap dimension)

/-- the bitset word touched by `mark_if_unvisited_unchecked` exists once `prepare` ran -/
theorem C17_visited_in_bounds (nodeCount dense : Nat) (h : dense < nodeCount) :
    visitedWord dense < requiredWords nodeCount := by
  unfold visitedWord requiredWords
  rw [Nat.shiftRight_eq_div_pow]
  omega

/-- lint result: every neighbour id read out of a record is compared with `node_count` before an
unchecked access uses it -/
theorem C17_neighbour_ids_guarded : unguardedNeighbourSites = [] := by decide

/-- lint result: the index of every `neighbor_unchecked(d, E)` call is bounded by the record's own
neighbour count (`for E in 0..neighbor_count` / `if E < neighbor_count`, the count read with
`count_unchecked` from the same record or handed down by such a caller) -/
theorem C17_neighbour_indices_guarded : unguardedIndexSites = [] := by decide

/-- an index below the record's count (which `set_neighbors` clamps to `cap`) reads a slot of
that record, never the vector payload, the padding or the next record -/
theorem C17_guarded_index_in_bounds (cap dimension n dense idx count : Nat) (h : dense < n)
    (hcount : count ≤ cap) (hi : idx < count) :
    neighborIdx (recordWords cap dimension) dense idx < dataLenAfter (recordWords cap dimension) n :=
  (C17_neighbor_in_bounds cap dimension n dense idx h (Nat.lt_of_lt_of_le hi hcount)).1

/-- why the look-ahead needs its guard: with the neighbour list full (count = cap), dimension 1 and a
record without padding (cap + 2 words, e.g. M = 7: cap = 14), the slot two past the last neighbour
of the LAST record is the first word outside `data` -/
theorem C17_unguarded_lookahead_leaves_data :
    recordWords 14 1 = 16 ∧ neighborIdx (recordWords 14 1) 2 (13 + 2) = dataLenAfter (recordWords 14 1) 3 := by
  decide

/-- lint result: every raw-pointer `.add(` in ann_backend.rs is one of the two with a bounds theorem
(`vector_at_unchecked`: `C17_vector_in_bounds`; `record_ptr`: `C17_record_ptr_in_bounds`).  Pointer
arithmetic past the allocation is undefined even when the pointer is only handed to a prefetch. -/
theorem C17_pointer_arithmetic_bounded : unboundedPointerAddSites = [] := by decide

/-- `record_ptr` of a stored node points inside `data` -/
theorem C17_record_ptr_in_bounds (cap dimension n dense : Nat) (h : dense < n) :
    recordPtrStart (recordWords cap dimension) dense < dataLenAfter (recordWords cap dimension) n :=
  -- `recordPtrStart` and `countIdx` are the same word: the record starts at its count
  C17_count_in_bounds cap dimension n dense h

/-- why a fixed look-ahead of cache lines from `record_ptr` needs wrapping arithmetic: a one-line
record (dimension 1, M = 7: 16 words = 64 bytes) at the end of `data` has nothing behind it, so
record start + 2 cache lines (32 words) lies beyond one-past-the-end -/
theorem C17_prefetch_lines_leave_allocation :
    recordPtrStart (recordWords 14 1) 2 + 32 > dataLenAfter (recordWords 14 1) 3 := by decide

/-- non-vacuity: a real configuration (M0 = 32, dimension 13, three nodes) -/
example : vectorStart (recordWords 32 13) (vectorOffsetWords 32) 2 + vectorLen 13
    ≤ dataLenAfter (recordWords 32 13) 3 := C17_vector_in_bounds 32 13 3 2 (by omega)
example : recordWords 32 13 = 48 := by decide

end KyroModel.C17
