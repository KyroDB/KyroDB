/-
What one operation of the tiered engine does to the state, operation by operation and then for
`applyOp` (`applyOp_spec`): the configuration stays, the document cache is used through its API
only, the mirror stays within the hard limit, and — in states where every mirrored document has a
canonical record — the canonical store moves exactly as the map specification `specStep` says
while that invariant is kept.  The read paths are covered by `Scrub` (Lemmas/Footprint,
Lemmas/Canonical), the drain by `drain_spec` (Lemmas/Drain); the remaining write paths are walked
through here, once each.
-/
import KyroModel.Lemmas.Canonical
import KyroModel.Lemmas.Cold
import KyroModel.Lemmas.Drain

namespace KyroModel
section
variable {D : Type} [DecidableEq D] (digest : Vec → D)

/-- What the canonical store must become (map semantics of the write API).  `_ => c` covers the
    refused insert, flush, audit, the reads and the pokes; that a drain's repair branch does not
    write is the hypothesis `HotSubCold` of `StepSpec.refines`, not a clause here. -/
def specStep (c : Cold) : TOp D → Cold
  | .insert id v m true => c.insert id v m
  | .delete id => (c.delete id).1
  | .batchDelete ids => (dedupSorted ids).foldl (fun c id => (Cold.delete c id).1) c
  | .updateMeta id m mg => (c.updateMeta id m mg).1
  | .bulkLoad docs => (bulkLoadCold c docs).1
  | _ => c

/-- Operations that cannot create a mirror-only entry. -/
def TOp.admissible (s : TState D) : TOp D → Prop
  | .pokeHot id _ _ _ => id ∈ akeys s.cold
  | _ => True

end
section
variable {D : Type}

/-- What one operation guarantees.  `1 ≤ hard`: with `hard = 0` an empty mirror is already "at the
    limit", its drain frees nothing, and the insert that follows leaves one entry. -/
structure StepSpec (s : TState D) (op : TOp D) (s' : TState D) : Prop where
  cfg : s'.cfg = s.cfg
  l1a : L1Api s.l1a s'.l1a
  hot : op.isEngineOp = true → 1 ≤ s.cfg.hard → s.hot.length ≤ s.cfg.hard →
    s'.hot.length ≤ s.cfg.hard
  refines : HotSubCold s → op.admissible s → s'.cold = specStep s.cold op ∧ HotSubCold s'

theorem StepSpec.ofQuiet {s s' : TState D} {op : TOp D} (hq : Quiet s s')
    (hr : HotSubCold s → s'.cold = specStep s.cold op ∧ HotSubCold s') : StepSpec s op s' :=
  ⟨hq.cfg, hq.l1a, fun _ _ hb => Nat.le_trans hq.hot hb, fun hs _ => hr hs⟩

theorem Scrub.stepSpec {s s' : TState D} {op : TOp D} (h : Scrub s s')
    (hop : specStep s.cold op = s.cold) : StepSpec s op s' :=
  .ofQuiet h.quiet fun hs => ⟨h.cold.trans hop.symm, h.hsc hs⟩

theorem hsc_of_hot_nil {s : TState D} (h : s.hot = []) : HotSubCold s :=
  fun id hid => by rw [h] at hid; cases hid

theorem delete_stepSpec (s : TState D) (id : Nat) : StepSpec s (.delete id) (delete s id).1 := by
  have key : HotSubCold s → ∀ j, j ∈ akeys (aerase id s.hot) → j ∈ akeys (s.cold.delete id).1 :=
    fun hs j hj => Cold.mem_akeys_delete.mpr (((mem_akeys_aerase_iff ..).mp hj).imp_left (hs j))
  unfold delete
  split
  · exact .ofQuiet ⟨rfl, length_aerase_le, .refl _⟩ fun hs => ⟨rfl, key hs⟩
  · exact .ofQuiet ⟨rfl, length_aerase_le, .invalidate _ _⟩ fun hs => ⟨rfl, key hs⟩

theorem batchDelete_stepSpec (s : TState D) (ids : List Nat) :
    StepSpec s (.batchDelete ids) (batchDelete s ids).1 := by
  unfold batchDelete
  split
  · next h0 =>
    -- nothing is present in either tier: deleting absent ids leaves the store as it is
    exact (Scrub.refl s).stepSpec (Cold.foldl_delete_absent fun id hid =>
      ((presentCount_eq_zero s).mp h0 id hid).2)
  · exact .ofQuiet ⟨rfl, foldl_aerase_sublist.length_le, .foldl_invalidate (fun x => x) _ _⟩
      fun hs => ⟨rfl, fun j hj => Cold.mem_akeys_foldl_delete.mpr
        ((mem_akeys_foldl_aerase.mp hj).imp_left (hs j))⟩

theorem updateMeta_stepSpec (s : TState D) (id : Nat) (m : Meta) (mg : Bool) :
    StepSpec s (.updateMeta id m mg) (updateMeta s id m mg).1 := by
  unfold updateMeta
  split
  · next hex =>
    refine (Scrub.refl s).stepSpec ?_
    show (s.cold.updateMeta id m mg).1 = s.cold
    unfold Cold.updateMeta at hex ⊢
    split at hex
    · simp at hex
    · rfl
  · exact .ofQuiet ⟨rfl, length_hotUpdateMeta_le, .refl _⟩
      fun hs => ⟨rfl, fun j hj => Cold.mem_akeys_updateMeta.mpr
        (hs j (mem_akeys_hotUpdateMeta.mp hj))⟩

theorem bulkLoad_stepSpec (s : TState D) (docs : List (Nat × Vec × Meta × Bool)) :
    StepSpec s (.bulkLoad docs) (bulkLoad s docs).1 :=
  .ofQuiet ⟨rfl, Nat.le_refl _, .foldl_invalidate (·.1) docs _⟩
    fun hs => ⟨rfl, fun j hj => Cold.mem_akeys_bulkLoad docs (hs j hj)⟩

variable [DecidableEq D] (digest : Vec → D)

theorem flush_stepSpec (s : TState D) (f : Bool) : StepSpec s (.flush f) (flush digest s f).1 := by
  unfold flush
  split
  · exact (Scrub.refl s).stepSpec rfl
  · have h := drain_spec digest s
    exact .ofQuiet h.quiet fun hs => ⟨h.cold hs, hsc_of_hot_nil (h.empties hs)⟩

/-- What `insertCore` does: one more mirror entry at most, and the canonical store moves as the
    specification of `insert` says. -/
structure CoreSpec (s : TState D) (op : TOp D) (s' : TState D) : Prop where
  cfg : s'.cfg = s.cfg
  l1a : L1Api s.l1a s'.l1a
  hot : s'.hot.length ≤ s.hot.length + 1
  cold : s'.cold = specStep s.cold op
  hsc : HotSubCold s → HotSubCold s'

theorem insertCore_spec (s : TState D) (id : Nat) (v : Vec) (m : Meta) (a : Bool) :
    CoreSpec s (.insert id v m a) (insertCore digest s id v m a).1 := by
  unfold insertCore
  cases a with
  | false => exact ⟨rfl, .invalidate _ _, Nat.le_succ _, rfl, fun hs => hs⟩
  | true =>
    simp only [Bool.not_true, Bool.false_eq_true, ↓reduceIte]
    split
    · exact ⟨rfl, .invalidate _ _, length_aset_le, rfl, fun hs j hj =>
        Cold.mem_akeys_insert.mpr (((mem_akeys_aset id j s.hot).mp hj).imp_right (hs j))⟩
    · exact ⟨rfl, .invalidate _ _, Nat.le_succ _, rfl, fun hs j hj =>
        Cold.mem_akeys_insert.mpr (Or.inr (hs j hj))⟩

/-- The hard limit is re-established by every `insert`, successful or not: at the limit the
    emergency drain either fails (no insert) or frees at least one slot. -/
theorem insert_stepSpec (s : TState D) (id : Nat) (v : Vec) (m : Meta) (a : Bool) :
    StepSpec s (.insert id v m a) (insert digest s id v m a).1 := by
  unfold insert
  split
  · next hge =>
    have h := drain_spec digest s
    generalize drain digest s = r at h ⊢
    obtain ⟨s1, o⟩ := r
    cases o with
    | none => exact .ofQuiet h.quiet fun hs => nomatch h.ok hs
    | some n =>
      have c := insertCore_spec digest s1 id v m a
      refine ⟨c.cfg.trans h.quiet.cfg, h.quiet.l1a.trans c.l1a, fun _ h1 hb => ?_, fun hs _ => ?_⟩
      · exact Nat.le_trans c.hot (Nat.le_trans
          (h.frees rfl (Nat.ne_of_gt (Nat.lt_of_lt_of_le h1 hge))) hb)
      · exact ⟨h.cold hs ▸ c.cold, c.hsc (hsc_of_hot_nil (h.empties hs))⟩
  · next hlt =>
    have c := insertCore_spec digest s id v m a
    exact ⟨c.cfg, c.l1a, fun _ _ _ => Nat.le_trans c.hot (Nat.lt_of_not_ge hlt),
      fun hs _ => ⟨c.cold, c.hsc hs⟩⟩

/-- **Every operation**: where the mirror is inside the canonical store, writes refine the map
    specification and drains write nothing (audits and reads never write); engine operations keep
    the mirror within the hard limit; any predicate on the document cache closed under
    `get`/`insert`/`invalidate` is kept. -/
theorem applyOp_spec (s : TState D) (op : TOp D) : StepSpec s op (applyOp digest s op) := by
  cases op with
  | insert id v m a => exact insert_stepSpec digest s id v m a
  | delete id => exact delete_stepSpec s id
  | batchDelete ids => exact batchDelete_stepSpec s ids
  | updateMeta id m mg => exact updateMeta_stepSpec s id m mg
  | bulkLoad docs => exact bulkLoad_stepSpec s docs
  | flush f => exact flush_stepSpec digest s f
  | audit => exact (scrub_audit digest s).stepSpec rfl
  | query id a => exact (query_spec digest s id a).scrub.stepSpec rfl
  | docWithMeta id => exact (docWithMeta_spec digest s id).scrub.stepSpec rfl
  | embAware id => exact (embAware_spec digest s id).scrub.stepSpec rfl
  | bulkQuery ids => exact (bulkQuery_spec digest s ids).scrub.stepSpec rfl
  | pokeCache id v t => exact (Scrub.ofL1a (.insert _ _ _)).stepSpec rfl
  | pokeHot id v m t =>
    exact ⟨rfl, .refl _, fun hop => (nomatch hop), fun hs hadm => ⟨rfl, fun j hj =>
      ((mem_akeys_aset id j s.hot).mp hj).elim (· ▸ hadm) (hs j)⟩⟩

theorem closed_applyOps {P : L1a D → Prop} (hc : L1Closed P) {s : TState D} (ops : List (TOp D))
    (h : P s.l1a) : P (applyOps digest s ops).l1a :=
  List.foldlRecOn (motive := fun s => P s.l1a) ops _ h fun s hs op _ => (applyOp_spec digest s op).l1a.keeps hc hs

theorem applyOps_hot_bound (s : TState D) {ops : List (TOp D)}
    (hops : ∀ op ∈ ops, op.isEngineOp = true) (hhard : 1 ≤ s.cfg.hard)
    (hb : s.hot.length ≤ s.cfg.hard) :
    (applyOps digest s ops).cfg = s.cfg ∧ (applyOps digest s ops).hot.length ≤ s.cfg.hard :=
  List.foldlRecOn (motive := fun s' : TState D => s'.cfg = s.cfg ∧ s'.hot.length ≤ s.cfg.hard) ops _
    ⟨rfl, hb⟩ fun s' ⟨hc, hb'⟩ op hop =>
      have h := applyOp_spec digest s' op
      ⟨h.cfg.trans hc, hc ▸ h.hot (hops op hop) (hc ▸ hhard) (hc ▸ hb')⟩

/-- admissibility of a whole history: no plant of a mirror for a non-canonical id -/
def C04.Admissible (s : TState D) : List (TOp D) → Prop
  | [] => True
  | op :: rest => op.admissible s ∧ C04.Admissible (applyOp digest s op) rest

variable {digest} in
theorem applyOps_refines {s : TState D} {ops : List (TOp D)} (hs : HotSubCold s)
    (ha : C04.Admissible digest s ops) :
    (applyOps digest s ops).cold = ops.foldl specStep s.cold ∧ HotSubCold (applyOps digest s ops) := by
  induction ops generalizing s with
  | nil => exact ⟨rfl, hs⟩
  | cons op rest ih =>
    obtain ⟨hc, hs'⟩ := (applyOp_spec digest s op).refines hs ha.1
    rw [List.foldl_cons, ← hc]
    exact ih hs' ha.2

end
end KyroModel
