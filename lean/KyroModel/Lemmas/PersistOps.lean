/-
The flows of the engine (rotation, logging one entry, snapshot), action by action: `Frame` (the
disk invariant plus what the engine knows about names) is carried across every action, so each
intermediate disk (= each kill point) satisfies the disk invariant for the documents before the
flow or for the documents after it.
-/
import KyroModel.Lemmas.DiskInv

namespace KyroModel

/-- `P` holds on the disk before each action of `as` and after the last one -/
def AllPrefixes (P : Disk → Prop) : Disk → List Action → Prop
  | d, [] => P d
  | d, a :: rest => P d ∧ AllPrefixes P (d.apply a) rest

theorem applyAll_append (d : Disk) (a b : List Action) :
    d.applyAll (a ++ b) = (d.applyAll a).applyAll b :=
  List.foldl_append

theorem applyAll_cons (d : Disk) (a : Action) (rest : List Action) :
    d.applyAll (a :: rest) = (d.apply a).applyAll rest := rfl

theorem allPrefixes_mono {P Q : Disk → Prop} (h : ∀ d, P d → Q d) {d : Disk} {as : List Action}
    (hp : AllPrefixes P d as) : AllPrefixes Q d as := by
  induction as generalizing d with
  | nil => exact h d hp
  | cons a rest ih => exact ⟨h d hp.1, ih hp.2⟩

theorem allPrefixes_append {P : Disk → Prop} {d : Disk} {a b : List Action}
    (ha : AllPrefixes P d a) (hb : AllPrefixes P (d.applyAll a) b) : AllPrefixes P d (a ++ b) := by
  induction a generalizing d with
  | nil => exact hb
  | cons x rest ih => exact ⟨ha.1, ih ha.2 hb⟩

theorem allPrefixes_take {P : Disk → Prop} {d : Disk} {as : List Action}
    (h : AllPrefixes P d as) (k : Nat) : P (d.applyAll (as.take k)) := by
  induction as generalizing d k with
  | nil => rw [List.take_nil]; exact h
  | cons a rest ih =>
    cases k with
    | zero => exact h.1
    | succ k => exact ih h.2 k

/-- engine/disk frame: invariant for `docs`/`ns`, active segment listed last, fresh names -/
structure Frame (e : PEng) (d : Disk) (docs : Docs) (ns : Nat) : Prop where
  dinv : DInv d docs ns
  active : ∀ m, d.manifest = some m → ∃ init, m.segs = init ++ [e.active]
  walNames : ∀ n ∈ akeys d.wals, n < e.nextName
  snapNames : ∀ n ∈ akeys d.snaps, n < e.nextName

theorem manifest_apply (d : Disk) (a : Action) (h : ∀ m, a ≠ .manifestPut m) :
    (d.apply a).manifest = d.manifest := by
  cases a with
  | manifestPut m => exact absurd rfl (h m)
  | walAppend n e => simp only [Disk.apply]; split <;> rfl
  | _ => rfl

theorem walNames_apply {d : Disk} {a : Action} {nn : Nat} (h : ∀ n ∈ akeys d.wals, n < nn)
    (ha : ∀ n, a = .walCreate n → n < nn) : ∀ n ∈ akeys (d.apply a).wals, n < nn := by
  intro k hk
  cases a with
  | walCreate n =>
    rcases (mem_akeys_aset n k _).mp hk with rfl | hk
    · exact ha _ rfl
    · exact h k hk
  | walAppend n e =>
    simp only [Disk.apply] at hk
    split at hk
    · rename_i w hw
      rcases (mem_akeys_aset _ _ _).mp hk with rfl | hk
      · exact h _ (mem_akeys_of_alookup hw)
      · exact h k hk
    · exact h k hk
  | unlinkWal n => exact h k ((mem_akeys_aerase_iff n k _).mp hk).1
  | _ => exact h k hk

theorem snapNames_apply {d : Disk} {a : Action} {nn : Nat} (h : ∀ n ∈ akeys d.snaps, n < nn)
    (ha : ∀ n s, a = .snapPut n s → n < nn) : ∀ n ∈ akeys (d.apply a).snaps, n < nn := by
  intro k hk
  cases a with
  | snapPut n s =>
    rcases (mem_akeys_aset n k _).mp hk with rfl | hk
    · exact ha _ _ rfl
    · exact h k hk
  | walAppend n e =>
    have : (d.apply (.walAppend n e)).snaps = d.snaps := by simp only [Disk.apply]; split <;> rfl
    exact h k (this ▸ hk)
  | unlinkSnap n => exact h k ((mem_akeys_aerase_iff n k _).mp hk).1
  | _ => exact h k hk

theorem Frame.of_eq {e e' : PEng} {d : Disk} {docs : Docs} {ns : Nat} (f : Frame e d docs ns)
    (ha : e'.active = e.active) (hn : e'.nextName = e.nextName) : Frame e' d docs ns :=
  ⟨f.dinv, ha ▸ f.active, hn ▸ f.walNames, hn ▸ f.snapNames⟩

/-- `Frame` across one action: the invariant is the caller's business, the name bounds follow
    from what the action creates -/
theorem Frame.step {e e' : PEng} {d : Disk} {docs docs' : Docs} {ns ns' : Nat} (f : Frame e d docs ns)
    {a : Action} (hd : DInv (d.apply a) docs' ns')
    (hact : ∀ m, (d.apply a).manifest = some m → ∃ init, m.segs = init ++ [e'.active])
    (hnn : e.nextName ≤ e'.nextName) (hw : ∀ n, a = .walCreate n → n < e'.nextName)
    (hs : ∀ n s, a = .snapPut n s → n < e'.nextName) : Frame e' (d.apply a) docs' ns' :=
  ⟨hd, hact, walNames_apply (fun n hn => Nat.lt_of_lt_of_le (f.walNames n hn) hnn) hw,
    snapNames_apply (fun n hn => Nat.lt_of_lt_of_le (f.snapNames n hn) hnn) hs⟩

theorem Frame.append {e : PEng} {d : Disk} {docs : Docs} {ns : Nat} (f : Frame e d docs ns)
    (en : WEntry) (hseq : en.seq = ns) :
    Frame e (d.apply (.walAppend e.active en)) (docs.apply en) (ns + 1) :=
  f.step (dinv_append f.dinv hseq f.active)
    (fun m hm => f.active m (manifest_apply d (.walAppend e.active en) (fun _ h => by cases h) ▸ hm))
    (Nat.le_refl _) (fun _ h => by cases h) (fun _ _ h => by cases h)

/-- `Frame` across the publication of a MANIFEST that lists the active segment last -/
theorem Frame.put {e : PEng} {d : Disk} {docs : Docs} {ns : Nat} (f : Frame e d docs ns) {m : Manifest}
    (hd : DInv (d.apply (.manifestPut m)) docs ns) {init : List Nat} (hact : m.segs = init ++ [e.active]) :
    Frame e (d.apply (.manifestPut m)) docs ns :=
  f.step hd (fun _ hm' => by cases hm'; exact ⟨init, hact⟩) (Nat.le_refl _) (fun _ h => by cases h)
    (fun _ _ h => by cases h)

/-- a new active segment (rotation, start-up): create the file `e.nextName`, then list it -/
theorem Frame.newSegment {e : PEng} {d : Disk} {docs : Docs} {ns : Nat} (f : Frame e d docs ns)
    {m : Manifest} (hm : d.manifest = some m) (e' : PEng) (ha : e'.active = e.nextName)
    (hn : e'.nextName = e.nextName + 1) :
    Frame e' (d.applyAll [.walCreate e.nextName, .manifestPut { m with segs := m.segs ++ [e.nextName] }])
      docs ns ∧
    AllPrefixes (fun d' => DInv d' docs ns) d
      [.walCreate e.nextName, .manifestPut { m with segs := m.segs ++ [e.nextName] }] := by
  -- a listed segment exists, so its name is below the next one
  have hfresh : e.nextName ∉ m.segs := fun h =>
    have ⟨_, hw, _⟩ := (f.dinv.at hm).segs _ h
    Nat.lt_irrefl _ (f.walNames _ (mem_akeys_of_alookup hw))
  have h1 : DInv (d.apply (.walCreate e.nextName)) docs ns :=
    dinv_walCreate f.dinv fun m' hm' => by cases hm.symm.trans hm'; exact hfresh
  have h2 := ((h1.at hm).addSeg hfresh alookup_aset_self).put
  have f1 : Frame { e with nextName := e.nextName + 1 } (d.apply (.walCreate e.nextName)) docs ns :=
    f.step h1 f.active (Nat.le_succ _) (fun _ h => by cases h; exact Nat.lt_succ_self _)
      (fun _ _ h => by cases h)
  exact ⟨f1.step h2 (fun m' hm' => by cases hm'; exact ⟨m.segs, ha ▸ rfl⟩)
    (Nat.le_of_eq hn.symm) (fun _ h => by cases h) (fun _ _ h => by cases h), f.dinv, h1, h2⟩

theorem rotate_keeps (e : PEng) (d : Disk) :
    (rotate e d).1.store = e.store ∧ (rotate e d).1.nextSeq = e.nextSeq := by
  unfold rotate
  split
  · exact ⟨rfl, rfl⟩
  · split <;> exact ⟨rfl, rfl⟩

theorem rotate_spec (e : PEng) {d : Disk} {docs : Docs} {ns : Nat} (f : Frame e d docs ns) :
    Frame (rotate e d).1 (d.applyAll (rotate e d).2) docs ns ∧
    AllPrefixes (fun d' => DInv d' docs ns) d (rotate e d).2 := by
  unfold rotate
  split
  · exact ⟨f, f.dinv⟩
  · cases hm : d.manifest with
    | none => exact ⟨f, f.dinv⟩
    | some m => exact f.newSegment hm { e with active := e.nextName, bytes := 4, nextName := e.nextName + 1 } rfl rfl

theorem logEntry_spec (e : PEng) {d : Disk} {docs : Docs} {ns : Nat} {en : WEntry} (flen : Nat)
    (f : Frame e d docs ns) (hseq : en.seq = ns) :
    Frame (logEntry e d en flen).1 (d.applyAll (logEntry e d en flen).2) (docs.apply en) (ns + 1) ∧
    AllPrefixes (fun d' => DInv d' docs ns ∨ DInv d' (docs.apply en) (ns + 1)) d (logEntry e d en flen).2 :=
  have hr := rotate_spec { e with bytes := e.bytes + flen } ((f.append en hseq).of_eq rfl rfl)
  ⟨hr.1, Or.inl f.dinv, allPrefixes_mono (fun _ h => Or.inr h) hr.2⟩

theorem compactable_covered {d : Disk} {m : Manifest} {ls n : Nat} (h : n ∈ compactable d m ls) :
    n ∈ m.segs.dropLast ∧ ∀ en ∈ segEntries d n, 0 < en.seq ∧ en.seq ≤ ls := by
  simp only [compactable, List.mem_filter] at h
  refine ⟨h.1, fun en hen => ?_⟩
  cases hw : alookup n d.wals with
  | none => simp [segEntries, hw] at hen
  | some w =>
    simp only [hw, Bool.and_eq_true, List.all_eq_true, decide_eq_true_eq] at h
    have := h.2.2 en (segEntries_of_some hw ▸ hen)
    exact ⟨this.1, this.2.2⟩

theorem missingSegs_empty {d : Disk} {m : Manifest} {n : Nat} (h : n ∈ missingSegs d m) :
    n ∈ m.segs.dropLast ∧ segEntries d n = [] := by
  simp only [missingSegs, List.mem_filter, Option.isNone_iff_eq_none] at h
  exact ⟨h.1, by simp [segEntries, h.2]⟩

theorem Frame.unlinkAll {e : PEng} {d : Disk} {docs : Docs} {ns : Nat} (f : Frame e d docs ns)
    (l : List Nat) (hun : ∀ m, d.manifest = some m → ∀ n ∈ l, n ∉ m.segs) :
    Frame e (d.applyAll (l.map Action.unlinkWal)) docs ns ∧
    AllPrefixes (fun d' => DInv d' docs ns) d (l.map Action.unlinkWal) := by
  induction l generalizing d with
  | nil => exact ⟨f, f.dinv⟩
  | cons x rest ih =>
    have f1 : Frame e (d.apply (.unlinkWal x)) docs ns :=
      f.step (dinv_unlinkWal f.dinv fun m hm => hun m hm x (List.mem_cons_self ..))
        f.active (Nat.le_refl _) (fun _ h => by cases h) (fun _ _ h => by cases h)
    have h := ih f1 fun m hm n hn => hun m hm n (List.mem_cons_of_mem _ hn)
    exact ⟨h.1, f.dinv, h.2⟩

/-- the actions of a snapshot, over variables: publish a file holding the documents at the last
    sequence number, point the MANIFEST at it, drop from the list what `keep` rejects (earlier
    segments the snapshot covers), unlink `dead` (some of the dropped).  `snapshot_spec` puts the
    model's filter in.  `hdrop` speaks of `d` and is used two actions later (`g1.prune`): neither
    `snapPut` nor `manifestPut` touches `.wals`, so `segEntries` there reduces to that of `d`. -/
theorem Frame.snapshot {e : PEng} {d : Disk} {docs : Docs} {ns : Nat} (f : Frame e d docs ns) {m : Manifest}
    (hm : d.manifest = some m) {keep : Nat → Bool} {dead : List Nat}
    (hdrop : ∀ n, keep n = false →
      n ∈ m.segs.dropLast ∧ ∀ en ∈ segEntries d n, 0 < en.seq ∧ en.seq ≤ ns - 1)
    (hdead : ∀ n ∈ dead, keep n = false) :
    let as := Action.snapPut e.nextName ⟨ns - 1, docs⟩ ::
      .manifestPut { m with snap := some e.nextName, snapSeq := some (ns - 1) } ::
      .manifestPut { snap := some e.nextName, snapSeq := some (ns - 1), segs := m.segs.filter keep } ::
      dead.map Action.unlinkWal
    Frame { e with nextName := e.nextName + 1 } (d.applyAll as) docs ns ∧
    AllPrefixes (fun d' => DInv d' docs ns) d as := by
  obtain ⟨init, hinit⟩ := f.active m hm
  have hdl : m.segs.dropLast = init := by rw [hinit, List.dropLast_concat]
  -- the pointed snapshot exists, so its name is below the next one
  have hfresh : ∀ m', d.manifest = some m' → m'.snap ≠ some e.nextName := fun m' hm' h =>
    have ⟨_, hs⟩ := (f.dinv.at hm').snap _ h
    Nat.lt_irrefl _ (f.snapNames _ (mem_akeys_of_alookup hs))
  have f1 : Frame { e with nextName := e.nextName + 1 } (d.apply (.snapPut e.nextName ⟨ns - 1, docs⟩)) docs ns :=
    f.step (dinv_snapPut f.dinv hfresh)
      f.active (Nat.le_succ _) (fun _ h => by cases h) (fun _ _ h => by cases h; exact Nat.lt_succ_self _)
  have hfile : alookup e.nextName (d.apply (.snapPut e.nextName ⟨ns - 1, docs⟩)).snaps = some (some ⟨ns - 1, docs⟩) :=
    alookup_aset_self
  have g1 := (f1.dinv.at hm).point hfile
  have f2 := f1.put g1.put hinit
  -- the active segment is not among the earlier ones, so it stays, and stays last
  have hact : keep e.active = true := by
    cases hk : keep e.active with
    | true => rfl
    | false =>
      exact absurd (hdl ▸ (hdrop _ hk).1) fun hin => (List.nodup_append.mp (hinit ▸ (f.dinv.at hm).nodup)).2.2
        _ hin _ (List.mem_singleton_self _) rfl
  have f3 := f2.put (init := init.filter keep)
    (g1.prune (congrArg Prod.snd (snapBase_of_some rfl hfile)) fun n _ hk => (hdrop n hk).2).put
    (by rw [hinit, List.filter_append]; exact congrArg _ (List.filter_cons_of_pos (l := []) hact))
  have f4 := f3.unlinkAll dead fun m' hm' n hn hin => by
    cases hm'
    exact absurd (hdead n hn) (by simp [(List.mem_filter.mp hin).2])
  exact ⟨f4.1, f.dinv, f1.dinv, f2.dinv, f4.2⟩

theorem snapshot_keeps (e : PEng) (d : Disk) :
    (snapshot e d).1.store = e.store ∧ (snapshot e d).1.nextSeq = e.nextSeq := by
  unfold snapshot
  cases d.manifest with
  | none => exact ⟨rfl, rfl⟩
  | some m =>
    dsimp only
    by_cases h : m.snapSeq.getD 0 > e.nextSeq - 1
    · rw [if_pos h]; exact ⟨rfl, rfl⟩
    · rw [if_neg h]; exact ⟨rfl, rfl⟩

end KyroModel
