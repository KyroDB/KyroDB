/-
Lists in LRU order (head = oldest) under a key function: what both cache models (`VCache`,
`QCache`) keep.  A hit drops the key's entries by a filter and appends one entry with that key,
a miss drops the head when the list is full and appends, invalidation filters.  Every such step
is "take a sublist, then perhaps push one entry whose key it lacks".
-/
namespace KyroModel

/-- Unique keys, at most `max cap 1` entries (`cap = 0` behaves as `cap = 1`). -/
def LruInv {α κ : Type} (key : α → κ) (cap : Nat) (l : List α) : Prop :=
  (l.map key).Nodup ∧ l.length ≤ max cap 1

namespace LruInv
variable {α κ : Type} {key : α → κ} {cap : Nat} {l l' : List α} {e : α}

theorem nil : LruInv key cap [] := ⟨List.nodup_nil, Nat.zero_le _⟩

theorem sublist (hs : l'.Sublist l) (h : LruInv key cap l) : LruInv key cap l' :=
  ⟨(hs.map key).nodup h.1, Nat.le_trans hs.length_le h.2⟩

theorem filter (p : α → Bool) (h : LruInv key cap l) : LruInv key cap (l.filter p) :=
  h.sublist List.filter_sublist

theorem push (h : LruInv key cap l) (hk : key e ∉ l.map key) (hl : l.length < max cap 1) :
    LruInv key cap (l ++ [e]) := by
  refine ⟨?_, by rw [List.length_append]; exact hl⟩
  rw [List.map_append, List.nodup_append]
  refine ⟨h.1, List.nodup_cons.mpr ⟨List.not_mem_nil, List.nodup_nil⟩, fun a ha b hb hab => ?_⟩
  rw [List.mem_singleton.mp hb] at hab
  exact hk (hab ▸ ha)

/-- A hit: `p` drops (at least) the entries with key `k`, one of which was there. -/
theorem readd {k : κ} {p : α → Bool} (h : LruInv key cap l) (hk : k ∈ l.map key)
    (hp : ∀ x, p x = true → key x ≠ k) (he : key e = k) : LruInv key cap (l.filter p ++ [e]) := by
  obtain ⟨x, hx, hxk⟩ := List.mem_map.mp hk
  refine (h.filter p).push (fun hm => ?_) (Nat.lt_of_lt_of_le
    (List.length_filter_lt_length_iff_exists.mpr ⟨x, hx, fun hpx => hp x hpx hxk⟩) h.2)
  obtain ⟨y, hy, hyk⟩ := List.mem_map.mp hm
  exact hp y (List.mem_filter.mp hy).2 (hyk.trans he)

/-- A miss: the oldest entry goes when the list is full. -/
theorem add (h : LruInv key cap l) (hk : key e ∉ l.map key) :
    LruInv key cap ((if l.length ≥ cap then l.tail else l) ++ [e]) := by
  split
  · -- dropping the head makes room whether or not the list was full
    refine (h.sublist l.tail_sublist).push (fun hm => hk ((l.tail_sublist.map key).subset hm)) ?_
    cases l with
    | nil => exact Nat.lt_of_lt_of_le Nat.one_pos (Nat.le_max_right ..)
    | cons _ t => exact Nat.lt_of_lt_of_le (Nat.lt_succ_self _) h.2
  · rename_i hc
    exact h.push hk (Nat.lt_of_lt_of_le (Nat.lt_of_not_ge hc) (Nat.le_max_left ..))

end LruInv
end KyroModel
