/-
The three arithmetic facts behind the bounds obligations of the SIMD kernels (`Simd/Generated.lean`):
a kernel walks `len / w` whole vectors of `w` lanes, the unrolled loops `len / w / u` whole blocks
of `u` vectors, the stepped loops multiples of `w`.
-/
namespace KyroModel.Simd

/-- vector `i` of `len / w` whole vectors lies within `len` -/
theorem vec_load {w len i : Nat} (hi : i < len / w) : i * w + w ≤ len :=
  calc i * w + w = w * (i + 1) := by rw [Nat.mul_add, Nat.mul_one, Nat.mul_comm]
    _ ≤ w * (len / w) := Nat.mul_le_mul_left _ hi
    _ ≤ len := Nat.mul_div_le len w

/-- a load of `w` lanes at lane offset `o` of block `i`, of `len / w / u` whole blocks of `u` vectors,
    lies within `len` when it lies within the block -/
theorem block_load (w u o : Nat) {len i : Nat} (hi : i < len / w / u) (ho : o + w ≤ w * u) :
    i * (w * u) + o + w ≤ len :=
  calc i * (w * u) + o + w ≤ i * (w * u) + w * u := by rw [Nat.add_assoc]; exact Nat.add_le_add_left ho _
    _ = w * ((i + 1) * u) := by rw [Nat.add_mul, Nat.one_mul, Nat.mul_add, Nat.mul_left_comm]
    _ ≤ w * (len / w) := Nat.mul_le_mul_left _ (Nat.mul_le_of_le_div _ _ _ hi)
    _ ≤ len := Nat.mul_div_le len w

/-- a loop that starts at a multiple of `w` and steps by `w` visits multiples of `w`; below
    `len / w * w` each is the start of a whole vector -/
theorem stepped_load {w len i base : Nat} (hb : w ∣ base) (hlo : base ≤ i) (hhi : i < len / w * w)
    (hstep : (i - base) % w = 0) : i + w ≤ len := by
  obtain ⟨q, rfl⟩ : w ∣ i := Nat.add_sub_cancel' hlo ▸ Nat.dvd_add hb (Nat.dvd_of_mod_eq_zero hstep)
  rw [Nat.mul_comm w q] at hhi ⊢
  exact vec_load (Nat.lt_of_mul_lt_mul_right hhi)

end KyroModel.Simd
