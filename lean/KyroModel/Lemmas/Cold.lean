/-
The canonical store is a map: what a lookup (hence the key set) becomes under each of its
operations; the write paths read what they need about `Cold.*` off these equations.  Also the key
set of the mirror under `hotUpdateMeta` / repeated `aerase`, and membership in the id lists of the
filtered delete (`dedupSorted`, `coldFilterIds`).
-/
import KyroModel.Tiered.Model

namespace KyroModel

namespace Cold

theorem alookup_insert (c : Cold) (id j : Nat) (v : Vec) (m : Meta) :
    alookup j (c.insert id v m) =
      if j = id then some ⟨v, m, (match alookup id c with | some d => d.ver + 1 | none => 1)⟩
      else alookup j c := alookup_aset id j _ c

theorem delete_fst (c : Cold) (id : Nat) : (c.delete id).1 = aerase id c := by
  unfold Cold.delete
  split
  · rfl
  · next h => exact (aerase_of_not_mem (not_mem_of_alookup_none h)).symm

theorem alookup_delete (c : Cold) (id j : Nat) :
    alookup j (c.delete id).1 = if j = id then none else alookup j c :=
  delete_fst c id ▸ alookup_aerase id j c

theorem alookup_updateMeta (c : Cold) (id j : Nat) (m : Meta) (mg : Bool) :
    alookup j (c.updateMeta id m mg).1 =
      if j = id then
        (alookup id c).map fun d => { d with md := if mg then Meta.merge d.md m else m }
      else alookup j c := by
  unfold Cold.updateMeta
  split
  · next d hd => rw [alookup_aset, hd]; rfl
  · next hd =>
    split
    · next e => rw [e, hd]; rfl
    · rfl

theorem alookup_foldl_delete (ids : List Nat) (c : Cold) (j : Nat) :
    alookup j (ids.foldl (fun c id => (Cold.delete c id).1) c) =
      if j ∈ ids then none else alookup j c := by
  induction ids generalizing c with
  | nil => simp
  | cons i rest ih =>
    rw [List.foldl_cons, ih, alookup_delete]
    by_cases hr : j ∈ rest <;> by_cases hji : j = i <;> simp [hr, hji]

theorem foldl_delete_absent {ids : List Nat} {c : Cold} (h : ∀ id ∈ ids, alookup id c = none) :
    ids.foldl (fun c id => (Cold.delete c id).1) c = c :=
  List.foldlRecOn (motive := (· = c)) ids _ rfl fun _ hc id hid => by
    rw [hc, Cold.delete, h id hid]

theorem mem_akeys_insert {c : Cold} {id j : Nat} {v : Vec} {m : Meta} :
    j ∈ akeys (c.insert id v m) ↔ j = id ∨ j ∈ akeys c := mem_akeys_aset id j c

theorem mem_akeys_delete {c : Cold} {id j : Nat} :
    j ∈ akeys (c.delete id).1 ↔ j ∈ akeys c ∧ j ≠ id :=
  delete_fst c id ▸ mem_akeys_aerase_iff id j c

theorem mem_akeys_foldl_delete {ids : List Nat} {c : Cold} {j : Nat} :
    j ∈ akeys (ids.foldl (fun c id => (Cold.delete c id).1) c) ↔ j ∈ akeys c ∧ j ∉ ids := by
  simp only [mem_akeys_iff, alookup_foldl_delete]
  by_cases h : j ∈ ids <;> simp [h]

theorem mem_akeys_updateMeta {c : Cold} {id j : Nat} {m : Meta} {mg : Bool} :
    j ∈ akeys (c.updateMeta id m mg).1 ↔ j ∈ akeys c := by
  unfold Cold.updateMeta
  split
  · next d hd => exact mem_akeys_aset_of_mem (mem_akeys_of_alookup hd)
  · rfl

theorem mem_akeys_bulkLoad (docs : List (Nat × Vec × Meta × Bool)) {c : Cold} {j : Nat}
    (h : j ∈ akeys c) : j ∈ akeys (bulkLoadCold c docs).1 :=
  List.foldlRecOn (motive := fun acc : Cold × Nat => j ∈ akeys acc.1) docs _ h fun acc h p _ => by
    split
    · exact mem_akeys_insert.mpr (Or.inr h)
    · exact h

end Cold

theorem presentCount_eq_zero {D : Type} (s : TState D) {u : List Nat} :
    presentCount s u = 0 ↔ ∀ id ∈ u, alookup id s.hot = none ∧ alookup id s.cold = none := by
  simp only [presentCount, List.length_eq_zero_iff, List.filter_eq_nil_iff, Bool.or_eq_true, not_or,
    Bool.not_eq_true, Option.isSome_eq_false_iff, Option.isNone_iff_eq_none]

theorem mem_dedupSorted (ids : List Nat) (j : Nat) : j ∈ dedupSorted ids ↔ j ∈ ids := by
  simp [dedupSorted, List.mem_eraseDups, List.mem_mergeSort]

theorem mem_coldFilterIds (parse : String → Option Nat) {c : Cold} (hn : AKeysNodup c) (f : Filter)
    (j : Nat) :
    j ∈ coldFilterIds parse c f ↔ ∃ d, alookup j c = some d ∧ matchesF parse f d.md = true := by
  simp only [coldFilterIds, List.mem_map, List.mem_filter]
  constructor
  · rintro ⟨⟨k, d⟩, ⟨hm, hf⟩, rfl⟩
    exact ⟨d, (alookup_iff_mem hn _ _).mpr hm, hf⟩
  · rintro ⟨d, hl, hf⟩
    exact ⟨(j, d), ⟨mem_of_alookup hl, hf⟩, rfl⟩

section
variable {D : Type}

theorem mem_akeys_hotUpdateMeta {h : Hot D} {id j : Nat} {m : Meta} {mg : Bool} :
    j ∈ akeys (hotUpdateMeta h id m mg) ↔ j ∈ akeys h := by
  unfold hotUpdateMeta
  split
  · next d hl => exact mem_akeys_aset_of_mem (mem_akeys_of_alookup hl)
  · rfl

theorem length_hotUpdateMeta_le {h : Hot D} {id : Nat} {m : Meta} {mg : Bool} :
    (hotUpdateMeta h id m mg).length ≤ h.length := by
  unfold hotUpdateMeta
  split
  · next d hl => exact length_aset_of_mem (mem_akeys_of_alookup hl)
  · exact Nat.le_refl _

end
end KyroModel
