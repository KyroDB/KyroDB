/-
The inverted index reflects exactly the live slots' metadata (`IdxInv`), and every index
update used by the store preserves that.
-/
import KyroModel.Store.DocStore

namespace KyroModel

/-- what the index has to reflect: which slots are live, and their metadata -/
structure SlotView where
  live : Nat → Bool
  md : Nat → MetaMap

def SlotView.setLive (V : SlotView) (i : Nat) (m : MetaMap) : SlotView :=
  ⟨fun j => if j = i then true else V.live j, fun j => if j = i then m else V.md j⟩

def SlotView.setDead (V : SlotView) (i : Nat) : SlotView :=
  ⟨fun j => if j = i then false else V.live j, fun j => if j = i then [] else V.md j⟩

/-- a posting relation holds exactly the tags of the live slots' metadata -/
def PInv {τ : Type} (tags : MetaMap → List τ) (L : List (τ × Nat)) (V : SlotView) : Prop :=
  ∀ t i, (t, i) ∈ L ↔ V.live i = true ∧ t ∈ tags (V.md i)

theorem pinv_nil {τ : Type} {tags : MetaMap → List τ} (md : Nat → MetaMap) :
    PInv tags [] ⟨fun _ => false, md⟩ := fun t i => by simp

theorem pinv_append {τ : Type} {tags : MetaMap → List τ} {L : List (τ × Nat)} {V : SlotView}
    {i : Nat} {m : MetaMap} (h : PInv tags L V) (hdead : V.live i = false) :
    PInv tags (L ++ (tags m).map (·, i)) (V.setLive i m) := by
  intro t j
  simp only [List.mem_append, List.mem_map, Prod.mk.injEq, SlotView.setLive]
  by_cases hj : j = i
  · subst hj
    simp only [↓reduceIte, true_and]
    constructor
    · rintro (hl | ⟨a, ha, rfl, _⟩)
      · have := (h t j).mp hl
        rw [hdead] at this; exact absurd this.1 (by simp)
      · exact ha
    · intro ht; exact Or.inr ⟨t, ht, by simp⟩
  · simp only [hj, ↓reduceIte]
    constructor
    · rintro (hl | ⟨a, _, _, hji⟩)
      · exact (h t j).mp hl
      · exact absurd hji.symm hj
    · intro hh; exact Or.inl ((h t j).mpr hh)

theorem pinv_dropTags {τ : Type} [DecidableEq τ] {tags : MetaMap → List τ} {L : List (τ × Nat)}
    {V : SlotView} {i : Nat} {m : MetaMap} (h : PInv tags L V)
    (hm : V.live i = true → m = V.md i) :
    PInv tags (dropTags L (tags m) i) (V.setDead i) := by
  intro t j
  simp only [dropTags, List.mem_filter, Bool.not_eq_true', Bool.and_eq_false_imp, beq_iff_eq,
    SlotView.setDead]
  by_cases hj : j = i
  · subst hj
    simp only [↓reduceIte, Bool.false_eq_true, false_and, iff_false, not_and]
    intro hl
    have := (h t j).mp hl
    rw [← hm this.1] at this
    simp [this.2]
  · simp only [hj, ↓reduceIte]
    constructor
    · rintro ⟨hl, _⟩; exact (h t j).mp hl
    · intro hh; exact ⟨(h t j).mpr hh, fun e => by simp at e⟩

theorem pinv_dropSlot {τ : Type} (tags : MetaMap → List τ) (L : List (τ × Nat)) (V : SlotView)
    (i : Nat) (h : PInv tags L V) : PInv tags (dropSlot L i) (V.setDead i) := by
  intro t j
  simp only [dropSlot, List.mem_filter, bne_iff_ne, ne_eq, SlotView.setDead]
  by_cases hj : j = i
  · subst hj; simp
  · simp only [hj, not_false_eq_true, and_true, ↓reduceIte]
    exact h t j

section
variable (parse : String → Option Nat)

/-- `x` indexes exactly the live slots of `V` -/
structure IdxInv (x : MetaIndex) (V : SlotView) : Prop where
  alive : ∀ i, i ∈ x.alive ↔ V.live i = true
  kv : PInv tagsKV x.kv V
  lex : PInv tagsKV x.lex V
  num : PInv (tagsNum parse) x.num V
  numDocs : PInv (tagsNumDocs parse) x.numDocs V

variable {parse}

theorem idxInv_of_pointwise {x : MetaIndex} {V W : SlotView} (h : IdxInv parse x V)
    (hw : ∀ j, W.live j = V.live j ∧ W.md j = V.md j) : IdxInv parse x W := by
  obtain ⟨l, m⟩ := V
  obtain ⟨l', m'⟩ := W
  obtain rfl : l' = l := funext fun j => (hw j).1
  obtain rfl : m' = m := funext fun j => (hw j).2
  exact h

variable (parse) in
theorem idxInv_empty (md : Nat → MetaMap) : IdxInv parse MetaIndex.empty ⟨fun _ => false, md⟩ :=
  ⟨by simp [MetaIndex.empty], pinv_nil md, pinv_nil md, pinv_nil md, pinv_nil md⟩

theorem idxInv_insertDoc {x : MetaIndex} {V : SlotView} (i : Nat) (m : MetaMap)
    (h : IdxInv parse x V) (hdead : V.live i = false) :
    IdxInv parse (x.insertDoc parse i m) (V.setLive i m) := by
  have hna : x.alive.contains i = false := by simpa [hdead] using h.alive i
  unfold MetaIndex.insertDoc
  simp only [hna, Bool.false_eq_true, ↓reduceIte]
  refine ⟨?_, pinv_append h.kv hdead, pinv_append h.lex hdead,
    pinv_append h.num hdead, pinv_append h.numDocs hdead⟩
  intro j
  simp only [List.mem_cons, SlotView.setLive]
  by_cases hj : j = i
  · simp [hj]
  · simp [hj, h.alive j]

theorem idxInv_removeDoc {x : MetaIndex} {V : SlotView} (i : Nat) (m : MetaMap)
    (h : IdxInv parse x V) (hm : V.live i = true → m = V.md i) :
    IdxInv parse (x.removeDoc parse i m) (V.setDead i) := by
  unfold MetaIndex.removeDoc
  refine ⟨?_, pinv_dropTags h.kv hm, pinv_dropTags h.lex hm,
    pinv_dropTags h.num hm, pinv_dropTags h.numDocs hm⟩
  intro j
  simp only [List.mem_filter, bne_iff_ne, ne_eq, SlotView.setDead]
  by_cases hj : j = i
  · simp [hj]
  · simp [hj, h.alive j]

theorem idxInv_replaceDoc {x : MetaIndex} {V : SlotView} (i : Nat) (old new : MetaMap)
    (h : IdxInv parse x V) (hm : V.live i = true → old = V.md i) :
    IdxInv parse (x.replaceDoc parse i old new) ((V.setDead i).setLive i new) := by
  unfold MetaIndex.replaceDoc
  exact idxInv_insertDoc i new (idxInv_removeDoc i old h hm)
    (by simp [SlotView.setDead])

end
end KyroModel
