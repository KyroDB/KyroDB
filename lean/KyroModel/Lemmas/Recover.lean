/-
The vocabulary of the disk invariant (`MapEq`, `segEntries`, `listedEntries`, `SegsOk`, `SnapOk`,
`snapBase`), `recover` cut into its two stages (`snapStage`, `segStep`), and the fact the invariant
is built on: strict recovery of a well-formed disk is the replay of the listed entries
over the snapshot.
-/
import KyroModel.Persist.Model

namespace KyroModel

/-- documents compared as maps: the lists may differ in order and in shadowed bindings -/
def MapEq (a b : Docs) : Prop := ∀ id, alookup id a = alookup id b

theorem MapEq.refl (a : Docs) : MapEq a a := fun _ => rfl
theorem MapEq.symm {a b : Docs} (h : MapEq a b) : MapEq b a := fun id => (h id).symm
theorem MapEq.trans {a b c : Docs} (h1 : MapEq a b) (h2 : MapEq b c) : MapEq a c :=
  fun id => (h1 id).trans (h2 id)

def segEntries (d : Disk) (n : Nat) : List WEntry := ((alookup n d.wals).map (·.entries)).getD []

def listedEntries (d : Disk) (segs : List Nat) : List WEntry := segs.flatMap (segEntries d)

theorem segEntries_of_some {d : Disk} {n : Nat} {w : WalFile} (h : alookup n d.wals = some w) :
    segEntries d n = w.entries := by
  simp only [segEntries, h, Option.map_some, Option.getD_some]

theorem listedEntries_cons (d : Disk) (n : Nat) (l : List Nat) :
    listedEntries d (n :: l) = segEntries d n ++ listedEntries d l := rfl

theorem listedEntries_singleton (d : Disk) (n : Nat) : listedEntries d [n] = segEntries d n :=
  List.append_nil _

theorem listedEntries_append (d : Disk) (a b : List Nat) :
    listedEntries d (a ++ b) = listedEntries d a ++ listedEntries d b :=
  List.flatMap_append

theorem mem_listedEntries (d : Disk) {segs : List Nat} (e : WEntry) :
    e ∈ listedEntries d segs ↔ ∃ n ∈ segs, e ∈ segEntries d n :=
  List.mem_flatMap

def SegsOk (d : Disk) (segs : List Nat) : Prop :=
  ∀ n ∈ segs, ∃ w, alookup n d.wals = some w ∧ w.corrupted = 0 ∧ w.badMagic = false

/-- rewriting one segment file with a clean one keeps the listed segments clean -/
theorem segsOk_aset {d : Disk} {segs : List Nat} (h : SegsOk d segs) (n : Nat) {w : WalFile}
    (hc : w.corrupted = 0) (hb : w.badMagic = false) : SegsOk { d with wals := aset n w d.wals } segs :=
  fun k hk => by
    by_cases hkn : k = n
    · exact ⟨w, hkn ▸ alookup_aset_self, hc, hb⟩
    · exact (alookup_aset_ne hkn).symm ▸ h k hk

def SnapOk (d : Disk) (m : Manifest) : Prop :=
  ∀ n, m.snap = some n → ∃ s, alookup n d.snaps = some (some s)

/-- where recovery starts when the pointed snapshot is readable (`snapStage_ok`); the defaults are
    never reached under `SnapOk` (the real fallback to older snapshot files is `loadSnapshot`) -/
def snapBase (d : Disk) (m : Manifest) : Docs × Nat :=
  match m.snap with
  | none => ([], 0)
  | some n =>
    match alookup n d.snaps with
    | some (some s) => (s.docs, s.lastSeq)
    | _ => ([], 0)

theorem snapBase_of_some {d : Disk} {m : Manifest} {n : Nat} {s : SnapFile} (hp : m.snap = some n)
    (hs : alookup n d.snaps = some (some s)) : snapBase d m = (s.docs, s.lastSeq) := by
  simp only [snapBase, hp, hs]

theorem replay_append (base : Docs) (sq : Nat) (a b : List WEntry) :
    replay base sq (a ++ b) = replay (replay base sq a) sq b :=
  List.foldl_append

theorem maxSeq_append (m : Nat) (a b : List WEntry) :
    maxSeq m (a ++ b) = maxSeq (maxSeq m a) b :=
  List.foldl_append

theorem maxSeq_lt_iff (m : Nat) {ns : Nat} (es : List WEntry) :
    maxSeq m es < ns ↔ m < ns ∧ ∀ e ∈ es, e.seq < ns := by
  induction es generalizing m with
  | nil => simp [maxSeq]
  | cons e rest ih =>
    rw [maxSeq, List.foldl_cons, ← maxSeq, ih]
    simp only [Nat.max_lt, List.mem_cons, forall_eq_or_imp, and_assoc]

/-! ### `recover` in two stages: the snapshot, then one step per listed segment -/

/-- the first stage of `recover`: the documents and sequence number of the snapshot it starts from -/
def snapStage (d : Disk) (m : Manifest) : Except RecErr (Docs × Nat) :=
  match m.snap with
  | none => .ok ([], 0)
  | some n =>
    match loadSnapshot d n with
    | some s => .ok (s.docs, s.lastSeq)
    | none => .error .snapshotUnreadable

/-- the body of `recover`'s loop over the listed segments: refuse a bad file, else replay its entries -/
def segStep (d : Disk) (sq : Nat) (acc : Except RecErr (Docs × Nat)) (n : Nat) :
    Except RecErr (Docs × Nat) :=
  match acc with
  | .error e => .error e
  | .ok (docs, mx) =>
    match alookup n d.wals with
    | none => .error (.missingSegment n)
    | some w =>
      if w.badMagic then .error (.badMagic n)
      else if w.corrupted > 0 then .error (.corruptFrames n)
      else .ok (replay docs sq w.entries, maxSeq mx w.entries)

theorem recover_unfold {d : Disk} {m : Manifest} (hm : d.manifest = some m) :
    recover d =
      match snapStage d m with
      | .error e => .error e
      | .ok (base, sq) => m.segs.foldl (segStep d sq) (.ok (base, sq)) := by
  unfold recover snapStage
  simp only [hm]
  rfl

theorem fold_error (d : Disk) (sq : Nat) (segs : List Nat) (e : RecErr) :
    segs.foldl (segStep d sq) (.error e) = .error e :=
  List.foldlRecOn (motive := (· = .error e)) segs (segStep d sq) rfl fun _ hs _ _ => by rw [hs]; rfl

theorem loadSnapshot_none (d : Disk) (n : Nat) (h : ∀ k, (alookup k d.snaps).join = none) :
    loadSnapshot d n = none := by
  unfold loadSnapshot
  split
  · rename_i s hs
    have := h n
    rw [hs] at this
    cases this
  · rw [List.head?_eq_none_iff, List.filterMap_eq_nil_iff]
    exact fun k _ => h k

theorem snapStage_ok {d : Disk} {m : Manifest} (hp : SnapOk d m) : snapStage d m = .ok (snapBase d m) := by
  unfold snapStage snapBase
  cases hsn : m.snap with
  | none => rfl
  | some n =>
    obtain ⟨s, hsf⟩ := hp n hsn
    simp only [loadSnapshot, hsf]

theorem recover_fold {d : Disk} {sq : Nat} {segs : List Nat} {docs : Docs} {mx : Nat}
    (h : SegsOk d segs) :
    segs.foldl (segStep d sq) (.ok (docs, mx))
      = .ok (replay docs sq (listedEntries d segs), maxSeq mx (listedEntries d segs)) := by
  induction segs generalizing docs mx with
  | nil => rfl
  | cons n rest ih =>
    obtain ⟨w, hw, hc, hb⟩ := h n (List.mem_cons_self ..)
    have hstep : segStep d sq (.ok (docs, mx)) n = .ok (replay docs sq w.entries, maxSeq mx w.entries) := by
      simp only [segStep, hw, hb, hc, Bool.false_eq_true, ↓reduceIte, Nat.lt_irrefl]
    rw [List.foldl_cons, hstep, ih (fun k hk => h k (List.mem_cons_of_mem _ hk)), listedEntries_cons,
      segEntries_of_some hw, replay_append, maxSeq_append]

theorem recover_eq {d : Disk} {m : Manifest} (hm : d.manifest = some m) (hs : SegsOk d m.segs)
    (hp : SnapOk d m) :
    recover d = .ok (replay (snapBase d m).1 (snapBase d m).2 (listedEntries d m.segs),
                     maxSeq (snapBase d m).2 (listedEntries d m.segs)) := by
  rw [recover_unfold hm, snapStage_ok hp]
  exact recover_fold hs

theorem Docs.apply_congr {a b : Docs} (h : MapEq a b) (e : WEntry) : MapEq (a.apply e) (b.apply e) := by
  intro id
  unfold Docs.apply
  cases e.op with
  | insert => simp only [alookup_aset, h id]
  | delete => simp only [alookup_aerase, h id]
  | update =>
    simp only
    rw [h e.id]
    cases alookup e.id b with
    | none => exact h id
    | some p => simp only [alookup_aset, h id]

theorem replay_cons (base : Docs) (sq : Nat) (e : WEntry) (rest : List WEntry) :
    replay base sq (e :: rest) =
      replay (if sq > 0 ∧ e.seq > 0 ∧ e.seq ≤ sq then base else base.apply e) sq rest := rfl

theorem replay_congr {a b : Docs} (h : MapEq a b) (sq : Nat) (es : List WEntry) :
    MapEq (replay a sq es) (replay b sq es) := by
  induction es generalizing a b with
  | nil => exact h
  | cons e rest ih =>
    rw [replay_cons, replay_cons]
    split
    · exact ih h
    · exact ih (Docs.apply_congr h e)

theorem replay_all_covered (base : Docs) {sq : Nat} {es : List WEntry}
    (h : ∀ e ∈ es, 0 < e.seq ∧ e.seq ≤ sq) : replay base sq es = base := by
  induction es with
  | nil => rfl
  | cons e rest ih =>
    have he := h e (List.mem_cons_self ..)
    rw [replay_cons, if_pos ⟨Nat.lt_of_lt_of_le he.1 he.2, he.1, he.2⟩]
    exact ih (fun x hx => h x (List.mem_cons_of_mem _ hx))

theorem replay_none_covered (base : Docs) (sq : Nat) (es : List WEntry)
    (h : ∀ e ∈ es, sq < e.seq) : replay base sq es = es.foldl Docs.apply base := by
  induction es generalizing base with
  | nil => rfl
  | cons e rest ih =>
    rw [replay_cons, if_neg fun hc => Nat.not_le_of_lt (h e (List.mem_cons_self ..)) hc.2.2, List.foldl_cons]
    exact ih _ (fun x hx => h x (List.mem_cons_of_mem _ hx))

theorem replay_snoc_new {base : Docs} {sq : Nat} {es : List WEntry} {e : WEntry} (h : sq < e.seq) :
    replay base sq (es ++ [e]) = (replay base sq es).apply e := by
  rw [replay_append, replay_cons, if_neg fun hc => Nat.not_le_of_lt h hc.2.2]
  rfl

end KyroModel
