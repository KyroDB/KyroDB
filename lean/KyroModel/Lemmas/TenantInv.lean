/-
The quota invariant of the tenant layer and its preservation by the moves the write paths are made of: one document
stored (`inv_store`, `insertCore_inv`), one erased (`inv_remove`), a set erased (`inv_after_deleteMany`).  The write RPCs
themselves are `Theorems/C14`.
-/
import KyroModel.Lemmas.Tenant

namespace KyroModel.Srv

/-- configured tenants: index and index text identify the tenant -/
def Tenants (ts : List Tn) : Prop :=
  ∀ a ∈ ts, ∀ b ∈ ts, (a.idx = b.idx ∨ a.idxStr = b.idxStr) → a = b

/-- the quota invariant (described in the header of `Theorems/C14.lean`) -/
structure Inv (ts : List Tn) (s : S) : Prop where
  keys : Keys s.docs
  /-- every stored document sits in the id range of the tenant whose index it carries -/
  owned : ∀ p ∈ s.docs, ∃ t ∈ ts, p.1 / limit32 = t.idx ∧ matchT t p.2 = true
  /-- the count used for admission = the live documents -/
  exact : ∀ t ∈ ts, count s t = cnt t s.docs
  bounded : ∀ t ∈ ts, count s t ≤ t.maxv

theorem matchT_eq {ts : List Tn} (hts : Tenants ts) {t t' : Tn} (ht : t ∈ ts) (ht' : t' ∈ ts) {d : Doc}
    (hd : matchT t d = true) : matchT t' d = decide (t' = t) := by
  by_cases e : t' = t
  · rw [e, hd, decide_eq_true rfl]
  · rw [decide_eq_false e, Bool.eq_false_iff]
    intro hd'
    simp only [matchT, beq_iff_eq] at hd hd'
    exact e (hts t' ht' t ht (Or.inr (Option.some.inj (hd'.symm.trans hd))))

theorem idx_ne {ts : List Tn} (hts : Tenants ts) {a b : Tn} (ha : a ∈ ts) (hb : b ∈ ts) (hne : a ≠ b) :
    a.idx ≠ b.idx := fun e => hne (hts a ha b hb (Or.inl e))

/-- the two clauses of `Inv` that speak of the documents only -/
structure DocsOk (ts : List Tn) (docs : List (Nat × Doc)) : Prop where
  keys : Keys docs
  owned : ∀ p ∈ docs, ∃ t ∈ ts, p.1 / limit32 = t.idx ∧ matchT t p.2 = true

theorem Inv.docsOk {ts : List Tn} {s : S} (hi : Inv ts s) : DocsOk ts s.docs := ⟨hi.keys, hi.owned⟩

theorem DocsOk.matches {ts : List Tn} (hts : Tenants ts) {docs : List (Nat × Doc)} (hok : DocsOk ts docs) {t : Tn}
    (ht : t ∈ ts) {g : Nat} (hg : g / limit32 = t.idx) {d : Doc} (hd : alookup g docs = some d) :
    matchT t d = true := by
  obtain ⟨t0, ht0, h1, h2⟩ := hok.owned _ ((alookup_iff_mem hok.keys g d).mp hd)
  rw [← hts t0 ht0 t ht (Or.inl (h1.symm.trans hg))]; exact h2

theorem DocsOk.store {ts : List Tn} {docs : List (Nat × Doc)} (hok : DocsOk ts docs) {t : Tn} (ht : t ∈ ts)
    {g : Nat} (hg : g / limit32 = t.idx) {d : Doc} (hd : matchT t d = true) : DocsOk ts (aset g d docs) :=
  ⟨nodup_aset g d _ hok.keys, fun p hp => by
    rcases List.mem_cons.mp hp with rfl | hp
    · exact ⟨t, ht, hg, hd⟩
    · exact hok.owned p (mem_aerase hp)⟩

theorem DocsOk.remove {ts : List Tn} {docs : List (Nat × Doc)} (hok : DocsOk ts docs) (g : Nat) :
    DocsOk ts (aerase g docs) :=
  ⟨nodup_aerase g hok.keys, fun p hp => hok.owned p (mem_aerase hp)⟩

/-- erase, then add; an overwritten document has the same owner, by `DocsOk.matches` -/
theorem cnt_store {ts : List Tn} (hts : Tenants ts) {docs : List (Nat × Doc)} (hok : DocsOk ts docs) {t : Tn}
    (ht : t ∈ ts) {g : Nat} (hg : g / limit32 = t.idx) {d : Doc} (hd : matchT t d = true) {t' : Tn} (ht' : t' ∈ ts) :
    cnt t' (aset g d docs) = cnt t' docs + (if t' = t ∧ alookup g docs = none then 1 else 0) := by
  rw [cnt_aset, matchT_eq hts ht ht' hd]
  cases hl : alookup g docs with
  | none => rw [aerase_of_not_mem (not_mem_of_alookup_none hl)]; by_cases e : t' = t <;> simp [e]
  | some d0 =>
    rw [cnt_aerase t' hok.keys hl, matchT_eq hts ht ht' (hok.matches hts ht hg hl)]
    by_cases e : t' = t <;> simp [e]

theorem cnt_remove {ts : List Tn} (hts : Tenants ts) {docs : List (Nat × Doc)} (hok : DocsOk ts docs) {t : Tn}
    (ht : t ∈ ts) {g : Nat} {d : Doc} (hl : alookup g docs = some d) (hd : matchT t d = true) {t' : Tn}
    (ht' : t' ∈ ts) : cnt t' docs = cnt t' (aerase g docs) + (if t' = t then 1 else 0) := by
  rw [cnt_aerase t' hok.keys hl, matchT_eq hts ht ht' hd]
  simp only [decide_eq_true_eq]

/-- The shape every write path has: the caller's census and the caller's counter moved by the same
    `+ ins - del`, nobody else's moved. -/
theorem inv_of_census {ts : List Tn} {s s' : S} (hi : Inv ts s) {t : Tn} (ins del : Nat)
    (hok : DocsOk ts s'.docs)
    (hcen : ∀ t' ∈ ts, cnt t' s'.docs + (if t' = t then del else 0) = cnt t' s.docs + (if t' = t then ins else 0))
    (hct : count s' t + del = count s t + ins)
    (hco : ∀ t' ∈ ts, t' ≠ t → count s' t' = count s t')
    (hb : count s' t ≤ t.maxv) : Inv ts s' := by
  refine ⟨hok.keys, hok.owned, fun t' ht' => ?_, fun t' ht' => ?_⟩
  · have h := hcen t' ht'
    by_cases e : t' = t
    · subst e; rw [hi.exact t' ht'] at hct; simp only [if_true] at h; omega
    · simp only [e, if_false, Nat.add_zero] at h; rw [hco t' ht' e, hi.exact t' ht', h]
  · by_cases e : t' = t
    · subst e; exact hb
    · rw [hco t' ht' e]; exact hi.bounded t' ht'

theorem inv_store {ts : List Tn} (hts : Tenants ts) {s : S} (hi : Inv ts s) {t : Tn} (ht : t ∈ ts)
    {g : Nat} (hg : g / limit32 = t.idx) (d : Doc) (hd : matchT t d = true)
    (s' : S) (hdocs : s'.docs = aset g d s.docs)
    (hct : count s' t = count s t + (if (alookup g s.docs).isSome then 0 else 1))
    (hco : ∀ t' ∈ ts, t' ≠ t → count s' t' = count s t')
    (hb : count s' t ≤ t.maxv) : Inv ts s' := by
  refine inv_of_census hi (if (alookup g s.docs).isSome then 0 else 1) 0 (hdocs ▸ hi.docsOk.store ht hg hd)
    (fun t' ht' => ?_) hct hco hb
  rw [hdocs, cnt_store hts hi.docsOk ht hg hd ht']
  cases alookup g s.docs <;> by_cases e : t' = t <;> simp [e]

theorem inv_remove {ts : List Tn} (hts : Tenants ts) {s : S} (hi : Inv ts s) {t : Tn} (ht : t ∈ ts)
    {g : Nat} {d : Doc} (hl : alookup g s.docs = some d) (hd : matchT t d = true)
    (s' : S) (hdocs : s'.docs = aerase g s.docs)
    (hct : count s' t = count s t - 1)
    (hco : ∀ t' ∈ ts, t' ≠ t → count s' t' = count s t') : Inv ts s' := by
  have hpos : 0 < count s t := by
    have := cnt_remove hts hi.docsOk ht hl hd ht
    rw [hi.exact t ht]; simp only [if_true] at this; omega
  refine inv_of_census hi 0 1 (hdocs ▸ hi.docsOk.remove g)
    (fun t' ht' => by rw [hdocs, cnt_remove hts hi.docsOk ht hl hd ht', ite_self, Nat.add_zero]) (by omega) hco
    (by have := hi.bounded t ht; omega)

theorem inv_same {ts : List Tn} {s s' : S} (hi : Inv ts s) (hd : s'.docs = s.docs)
    (hc : ∀ t, count s' t = count s t) : Inv ts s' :=
  ⟨hd ▸ hi.keys, fun p hp => hi.owned p (hd ▸ hp), fun t ht => by rw [hc, hd]; exact hi.exact t ht,
   fun t ht => by rw [hc]; exact hi.bounded t ht⟩

section paths
variable {ts : List Tn}

theorem insertCore_inv (hts : Tenants ts) {s : S} (hi : Inv ts s) {t : Tn} (ht : t ∈ ts) {g : Nat}
    (hg : g / limit32 = t.idx) (v : List Nat) (m : Meta) (ns : String) : Inv ts (insertCore s t g v m ns).1 := by
  have hstamp : matchT t ⟨v, stamp t m ns⟩ = true := beq_iff_eq.mpr (stamp_idx t m ns)
  rw [insertCore_eq]
  -- the branches of `insertCore_eq` in order: overwrite ok / overwrite refused / quota refused / new ok / new refused;
  -- the last gives its reservation back (`count_unreserve`)
  refine fst_ite (fun hs => fst_ite (fun _ => ?_) fun _ => hi) fun hs => fst_ite (fun _ => hi) fun hq =>
    fst_ite (fun _ => ?_) fun _ => inv_same hi (docs_decCount ..) (count_unreserve s t)
  · -- overwrite: the count does not move
    exact inv_store hts hi ht hg _ hstamp _ rfl (by rw [if_pos hs]; rfl) (fun _ _ _ => rfl) (hi.bounded t ht)
  · -- new id: one document more for `t`, one slot more counted, still within the limit by `hq`
    have hc : count (noteInserts { setCount s t (count s t + 1) with docs := aset g ⟨v, stamp t m ns⟩ s.docs } t 1) t
        = count s t + 1 := (count_noteInserts ..).trans (count_setCount_self s t _)
    exact inv_store hts hi ht hg _ hstamp _ (docs_noteInserts ..) (by rw [hc, if_neg hs])
      (fun t' ht' hne => (count_noteInserts ..).trans (count_setCount_ne (idx_ne hts ht' ht hne)))
      (by rw [hc]; omega)

theorem deleteMany_census (hts : Tenants ts) {t : Tn} (ht : t ∈ ts) {gs : List Nat}
    (hgs : ∀ g ∈ gs, g / limit32 = t.idx) : ∀ (s : S), DocsOk ts s.docs →
    DocsOk ts (deleteMany s gs).1.docs ∧
      ∀ t' ∈ ts, cnt t' s.docs = cnt t' (deleteMany s gs).1.docs + (if t' = t then (deleteMany s gs).2 else 0) := by
  induction gs with
  | nil => exact fun s hok => ⟨hok, fun _ _ => by simp [deleteMany]⟩
  | cons g rest ih =>
    intro s hok
    have ih := ih fun g' hg' => hgs g' (List.mem_cons_of_mem _ hg')
    unfold deleteMany
    split
    · rename_i hs
      obtain ⟨d, hd⟩ := Option.isSome_iff_exists.mp hs
      obtain ⟨h1, h2⟩ := ih { s with docs := aerase g s.docs } (hok.remove g)
      refine ⟨h1, fun t' ht' => ?_⟩
      rw [cnt_remove hts hok ht hd (hok.matches hts ht (hgs g (List.mem_cons_self ..)) hd) ht', h2 t' ht']
      by_cases e : t' = t <;> simp [e, Nat.add_assoc]
    · exact ih s hok

theorem inv_after_deleteMany (hts : Tenants ts) {s : S} (hi : Inv ts s) {t : Tn} (ht : t ∈ ts) {gs : List Nat}
    (hgs : ∀ g ∈ gs, g / limit32 = t.idx) :
    Inv ts (noteDeletes (decCount (deleteMany s gs).1 t (deleteMany s gs).2) t (deleteMany s gs).2) := by
  obtain ⟨hok, hcen⟩ := deleteMany_census hts ht hgs s hi.docsOk
  have hle : (deleteMany s gs).2 ≤ count s t := by
    have := hcen t ht; rw [hi.exact t ht]; simp only [if_true] at this; omega
  refine inv_of_census (t := t) hi 0 (deleteMany s gs).2 (by rw [docs_noteDeletes, docs_decCount]; exact hok)
    (fun t' ht' => by rw [docs_noteDeletes, docs_decCount, ite_self, Nat.add_zero, hcen t' ht']) ?_ ?_ ?_
  · rw [count_noteDeletes, count_decCount_self, count_deleteMany]; omega
  · intro t' ht' he
    rw [count_noteDeletes, count_decCount_ne (idx_ne hts ht' ht he), count_deleteMany]
  · rw [count_noteDeletes, count_decCount_self, count_deleteMany]
    exact Nat.le_trans (Nat.sub_le _ _) (hi.bounded t ht)

/-- the owner by id range is the tenant whose index the document carries (`owned`), and that is the caller,
    because the document passed `visible` -/
theorem selected_in_range (parse : String → Option Nat) {ts : List Tn} (hts : Tenants ts) {s : S} (hi : Inv ts s)
    {t : Tn} (ht : t ∈ ts) (f : Filter) (ns : String) :
    ∀ g ∈ selected parse s t f ns, g / limit32 = t.idx := by
  intro g hg
  obtain ⟨d, hd, hP⟩ := (mem_selected parse hi.keys t f ns g).mp hg
  obtain ⟨t0, ht0, h1, h2⟩ := hi.owned _ ((alookup_iff_mem hi.keys g d).mp hd)
  have := matchT_eq hts ht0 ht h2
  rw [visible_matches hP.1] at this
  rw [of_decide_eq_true this.symm]; exact h1

end paths

end KyroModel.Srv
