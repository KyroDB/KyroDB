/-
Strict recovery under single faults: which directories `recover` refuses, and what each fault
does to the directory.
-/
import KyroModel.Persist.Damage
import KyroModel.Lemmas.Recover

namespace KyroModel

/-- what makes `segStep` fail on segment `n`: the file is missing, cannot be opened, or has frames counted as corrupted -/
def BadSeg (d : Disk) (n : Nat) : Prop :=
  alookup n d.wals = none ∨ ∃ w, alookup n d.wals = some w ∧ (w.badMagic = true ∨ w.corrupted > 0)

theorem segStep_bad {d : Disk} (sq : Nat) (acc : Except RecErr (Docs × Nat)) {n : Nat}
    (h : BadSeg d n) : ∃ e, segStep d sq acc n = .error e := by
  cases acc with
  | error e => exact ⟨e, rfl⟩
  | ok p =>
    obtain ⟨docs, mx⟩ := p
    rcases h with h | ⟨w, hw, hb | hc⟩
    · exact ⟨.missingSegment n, by simp [segStep, h]⟩
    · exact ⟨.badMagic n, by simp [segStep, hw, hb]⟩
    · by_cases hb : w.badMagic = true
      · exact ⟨.badMagic n, by simp [segStep, hw, hb]⟩
      · exact ⟨.corruptFrames n, by simp [segStep, hw, hb, hc]⟩

theorem recover_bad_seg {d : Disk} {m : Manifest} (hm : d.manifest = some m) {n : Nat}
    (hn : n ∈ m.segs) (h : BadSeg d n) : ∃ e, recover d = .error e := by
  rw [recover_unfold hm]
  cases snapStage d m with
  | error e => exact ⟨e, rfl⟩
  | ok p =>
    -- the loop fails at `n` at the latest, and an error is carried to the end
    obtain ⟨base, sq⟩ := p
    obtain ⟨a, b, hab⟩ := List.append_of_mem hn
    obtain ⟨e, he⟩ := segStep_bad sq (a.foldl (segStep d sq) (.ok (base, sq))) h
    exact ⟨e, by simp only [hab, List.foldl_append, List.foldl_cons, he, fold_error]⟩

theorem damage_walOpenFails {d : Disk} {n : Nat} {w : WalFile} (hw : alookup n d.wals = some w) :
    d.damage (.walOpenFails n) = { d with wals := aset n { w with badMagic := true } d.wals } := by
  simp [Disk.damage, hw]

theorem damage_walSees {d : Disk} {n : Nat} (seqs : List Nat) (c : Nat) {w : WalFile}
    (hw : alookup n d.wals = some w) :
    d.damage (.walSees n seqs c) = { d with wals := aset n (w.seen seqs c) d.wals } := by
  simp [Disk.damage, hw]

theorem recoverAfter_walFault (d : Disk) {n : Nat} {dmg : Damage}
    (hd : dmg = .walGone n ∨ dmg = .walOpenFails n ∨ ∃ seqs c, dmg = .walSees n seqs c) :
    ∃ ws, recoverAfter d dmg = recover { d with wals := ws } ∧
      ∀ k, k ≠ n → alookup k ws = alookup k d.wals := by
  rcases hd with rfl | rfl | ⟨seqs, c, rfl⟩
  · exact ⟨_, rfl, fun k hk => alookup_aerase_ne hk⟩
  all_goals
    simp only [recoverAfter, Disk.damage]
    split
    · exact ⟨_, rfl, fun k hk => alookup_aset_ne hk⟩
    · exact ⟨_, rfl, fun _ _ => rfl⟩

theorem recoverAfter_snapFault (d : Disk) {n : Nat} {dmg : Damage}
    (hd : dmg = .snapGone n ∨ dmg = .snapUnreadable n) :
    ∃ ss, recoverAfter d dmg = recover { d with snaps := ss } ∧ (alookup n ss).join = none ∧
      ∀ k, k ≠ n → alookup k ss = alookup k d.snaps := by
  rcases hd with rfl | rfl
  · exact ⟨_, rfl, by rw [alookup_aerase_self]; rfl, fun k hk => alookup_aerase_ne hk⟩
  · simp only [recoverAfter, Disk.damage]
    split
    · exact ⟨_, rfl, by rw [alookup_aset_self]; rfl, fun k hk => alookup_aset_ne hk⟩
    · rename_i hn
      exact ⟨_, rfl, by rw [hn]; rfl, fun _ _ => rfl⟩

end KyroModel
