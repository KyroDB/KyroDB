/-
Byte-level facts about the segment scanner: clean round trip, truncation at ANY length reads as
a clean shorter segment, a checksum mismatch is counted, a length field that runs past the end
of the file silently ends the scan.  All of them rest on `scan_header`: what the scanner does at
a length field within the limits.
-/
import KyroModel.Persist.Codec

namespace KyroModel.Codec

theorem le32_length {n : Nat} : (le32 n).length = 4 := rfl

-- 4294967296 = 2^32: a length or checksum field is four bytes.
-- two bytes make `n % 2^16`, three `n % 2^24`, four `n % 2^32`
theorem rd32_le32 {n : Nat} (h : n < 4294967296) : rd32 (le32 n) = n :=
  calc n % 256 + 256 * (n / 256 % 256) + 65536 * (n / 65536 % 256) + 16777216 * (n / 16777216 % 256)
    _ = n % (256 * 256) + 65536 * (n / 65536 % 256) + 16777216 * (n / 16777216 % 256) := by
        rw [Nat.mod_mul]
    _ = n % (65536 * 256) + 16777216 * (n / 16777216 % 256) := by rw [Nat.mod_mul (a := 65536)]
    _ = n % (16777216 * 256) := by rw [Nat.mod_mul (a := 16777216)]
    _ = n := Nat.mod_eq_of_lt h

/-- well-formed payload and checksum function -/
structure Valid (crc : Bytes → Nat) (p : Bytes) : Prop where
  pos : 0 < p.length
  le : p.length ≤ maxEntry
  crc32 : crc p < 4294967296

theorem frame_length (crc : Bytes → Nat) (p : Bytes) : (frame crc p).length = p.length + 8 := by
  simp [frame, le32_length]; omega

theorem scan_nil (crc : Bytes → Nat) (fuel : Nat) : scan crc fuel [] = ⟨[], 0⟩ := by
  cases fuel <;> simp [scan]

/-- a length field within the limits in front of anything: the frame is read if the file holds
    all of it, else the scan ends with nothing counted -/
theorem scan_header (crc : Bytes → Nat) (fuel : Nat) {len : Nat} (rest : Bytes) (h0 : 0 < len)
    (hmax : len ≤ maxEntry) :
    scan crc (fuel + 1) (le32 len ++ rest) =
      if rest.length < len + 4 then ⟨[], 0⟩
      else scanFrame crc (rest.take len) (rd32 ((rest.drop len).take 4))
        (scan crc fuel (rest.drop (len + 4))) := by
  have hrd : rd32 ((le32 len ++ rest).take 4) = len := by
    rw [List.take_left' le32_length, rd32_le32 (Nat.lt_of_le_of_lt hmax (by decide))]
  have hlen : (le32 len ++ rest).length = 4 + rest.length := List.length_append
  rw [scan, hrd, hlen, if_neg (Nat.not_lt.mpr (Nat.le_add_right 4 _)),
    if_neg fun h => h.elim (Nat.ne_of_gt h0) (Nat.not_lt.mpr hmax), Nat.add_assoc, ← List.drop_drop,
    ← List.drop_drop (i := len + 4), List.drop_left' le32_length]
  simp only [Nat.add_lt_add_iff_left]

theorem scan_raw_frame (crc : Bytes → Nat) (fuel : Nat) {q : Bytes} {c : Nat} (tail : Bytes)
    (h0 : 0 < q.length) (hmax : q.length ≤ maxEntry) (hc : c < 4294967296) :
    scan crc (fuel + 1) (le32 q.length ++ q ++ le32 c ++ tail) =
      scanFrame crc q c (scan crc fuel tail) := by
  have hlen : (q ++ (le32 c ++ tail)).length = q.length + (4 + tail.length) := by
    rw [List.length_append, List.length_append, le32_length]
  rw [List.append_assoc, List.append_assoc, scan_header crc fuel _ h0 hmax, if_neg (by omega),
    List.take_left' rfl, ← List.drop_drop, List.drop_left' rfl, List.take_left' le32_length,
    List.drop_left' le32_length, rd32_le32 hc]

theorem scan_frame {crc : Bytes → Nat} (fuel : Nat) {p tail : Bytes} (hv : Valid crc p) :
    scan crc (fuel + 1) (frame crc p ++ tail) =
      ⟨p :: (scan crc fuel tail).payloads, (scan crc fuel tail).corrupted⟩ :=
  (scan_raw_frame crc fuel tail hv.pos hv.le hv.crc32).trans (if_pos rfl)

theorem encode_cons (crc : Bytes → Nat) (p : Bytes) (ps : List Bytes) :
    encode crc (p :: ps) = frame crc p ++ encode crc ps := rfl

theorem scan_frames {crc : Bytes → Nat} {ps : List Bytes} (hv : ∀ p ∈ ps, Valid crc p)
    (fuel : Nat) (tail : Bytes) :
    scan crc (ps.length + fuel) (encode crc ps ++ tail) =
      ⟨ps ++ (scan crc fuel tail).payloads, (scan crc fuel tail).corrupted⟩ := by
  induction ps with
  | nil => exact congrArg (scan crc · tail) (Nat.zero_add fuel)
  | cons p rest ih =>
    rw [encode_cons, List.append_assoc, List.length_cons, Nat.succ_add,
      scan_frame _ (hv p (List.mem_cons_self ..)),
      ih (fun q hq => hv q (List.mem_cons_of_mem _ hq))]
    rfl

theorem scan_encode {crc : Bytes → Nat} {ps : List Bytes} (hv : ∀ p ∈ ps, Valid crc p) {fuel : Nat}
    (hf : ps.length ≤ fuel) : scan crc fuel (encode crc ps) = ⟨ps, 0⟩ := by
  obtain ⟨k, rfl⟩ := Nat.exists_eq_add_of_le hf
  have := scan_frames hv k []
  rw [List.append_nil, scan_nil, List.append_nil] at this
  exact this

theorem length_le_encode (crc : Bytes → Nat) (ps : List Bytes) : ps.length ≤ (encode crc ps).length := by
  induction ps with
  | nil => exact Nat.le_refl _
  | cons q rest ih => rw [encode_cons, List.length_append, frame_length, List.length_cons]; omega

/-- the round trip through `WalReader::open`: the file length is fuel enough for `scan` -/
theorem readFile_encodeFile {crc : Bytes → Nat} {ps : List Bytes} (hv : ∀ p ∈ ps, Valid crc p) :
    readFile crc (encodeFile crc ps) = some ⟨ps, 0⟩ := by
  have hl : (encodeFile crc ps).length = 4 + (encode crc ps).length := List.length_append
  have ht : (encodeFile crc ps).take 4 = magic := List.take_left' rfl
  have hd : (encodeFile crc ps).drop 4 = encode crc ps := List.drop_left' rfl
  have := length_le_encode crc ps
  unfold readFile
  rw [if_neg (by omega), if_pos ht, hd, scan_encode hv (by omega)]

theorem scan_partial_frame {crc : Bytes → Nat} (fuel : Nat) {p : Bytes} (hv : Valid crc p) {k : Nat}
    (hk : k < (frame crc p).length) : scan crc fuel ((frame crc p).take k) = ⟨[], 0⟩ := by
  cases fuel with
  | zero => rfl
  | succ fuel =>
    rw [frame_length] at hk
    by_cases h4 : k < 4
    · rw [scan, if_pos (Nat.lt_of_le_of_lt (List.length_take_le ..) h4)]
    · -- the length field is whole, what follows it is short
      obtain ⟨j, rfl⟩ := Nat.exists_eq_add_of_le (Nat.le_of_not_lt h4)
      have : (frame crc p).take (4 + j) = le32 p.length ++ (p ++ le32 (crc p)).take j := by
        rw [frame, List.append_assoc]
        exact List.take_length_add_append (l₁ := le32 p.length) ..
      rw [this, scan_header crc fuel _ hv.pos hv.le, if_pos]
      exact Nat.lt_of_le_of_lt (List.length_take_le ..) (by omega)

theorem scan_truncated {crc : Bytes → Nat} {ps : List Bytes} (hv : ∀ p ∈ ps, Valid crc p) (k : Nat)
    {fuel : Nat} (hf : ps.length ≤ fuel) :
    ∃ j, j ≤ ps.length ∧ scan crc fuel ((encode crc ps).take k) = ⟨ps.take j, 0⟩ := by
  induction ps generalizing k fuel with
  | nil => exact ⟨0, Nat.le_refl _, by simp [encode, scan_nil]⟩
  | cons p rest ih =>
    have hvp := hv p (List.mem_cons_self ..)
    rw [encode_cons]
    by_cases hk : k < (frame crc p).length
    · refine ⟨0, Nat.zero_le _, ?_⟩
      rw [List.take_append_of_le_length (Nat.le_of_lt hk)]
      exact scan_partial_frame fuel hvp hk
    · cases fuel with
      | zero => exact absurd hf (Nat.not_succ_le_zero _)
      | succ f' =>
        rw [List.take_append, List.take_of_length_le (Nat.le_of_not_lt hk)]
        obtain ⟨j, hj, hs⟩ := ih (fun q hq => hv q (List.mem_cons_of_mem _ hq))
          (k - (frame crc p).length) (Nat.le_of_succ_le_succ hf)
        refine ⟨j + 1, Nat.succ_le_succ hj, ?_⟩
        rw [scan_frame f' hvp, hs]
        rfl

theorem scan_checksum_mismatch {crc : Bytes → Nat} {pre : List Bytes} (hv : ∀ p ∈ pre, Valid crc p)
    {q : Bytes} {c : Nat} (hq : 0 < q.length ∧ q.length ≤ maxEntry) (hc : c < 4294967296)
    (hbad : c ≠ crc q) (tail : Bytes) (fuel : Nat) :
    0 < (scan crc (pre.length + (fuel + 1)) (encode crc pre ++ (le32 q.length ++ q ++ le32 c ++ tail))).corrupted := by
  rw [scan_frames hv, scan_raw_frame crc fuel tail hq.1 hq.2 hc, scanFrame, if_neg hbad]
  exact Nat.succ_pos _

theorem scan_length_past_eof {crc : Bytes → Nat} {pre : List Bytes} (hv : ∀ p ∈ pre, Valid crc p)
    {len : Nat} (h0 : 0 < len) (hmax : len ≤ maxEntry) {rest : Bytes} (hr : rest.length < len + 4)
    (fuel : Nat) :
    scan crc (pre.length + fuel) (encode crc pre ++ (le32 len ++ rest)) = ⟨pre, 0⟩ := by
  rw [scan_frames hv]
  cases fuel with
  | zero => simp [scan]
  | succ fuel => rw [scan_header crc fuel rest h0 hmax, if_pos hr, List.append_nil]

end KyroModel.Codec
