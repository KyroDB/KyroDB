/-
The disk invariant `DInv d docs ns` ("strict recovery of `d` yields `docs`; every sequence
number on disk is below `ns`"; `DInvAt` is the same with the MANIFEST a parameter, `Rec` forgets
`ns`), its congruence in the disk (`SameReferenced`: it reads only what
the MANIFEST references), and its preservation by each logical action under the side condition
the engine establishes before issuing it.
-/
import KyroModel.Lemmas.Recover

namespace KyroModel

/-- MANIFEST present, listed segments clean, pointed snapshot readable; replay gives `docs`; sequence
    numbers positive and below `ns`; `snapSeq` not above the snapshot's own (the snapshot's stale
    test); each segment listed once (needed when the active one is rewritten) -/
def DInv (d : Disk) (docs : Docs) (ns : Nat) : Prop :=
  ∃ m, d.manifest = some m ∧ SegsOk d m.segs ∧ SnapOk d m ∧
    MapEq (replay (snapBase d m).1 (snapBase d m).2 (listedEntries d m.segs)) docs ∧
    (∀ e ∈ listedEntries d m.segs, 0 < e.seq ∧ e.seq < ns) ∧
    (snapBase d m).2 < ns ∧ (∀ s, m.snapSeq = some s → s ≤ (snapBase d m).2) ∧ m.segs.Nodup

/-- what `DInv` says of the MANIFEST: `DInv d docs ns` is `DInvAt d m docs ns` for the `m` the disk holds.
    Stated for any `m`, it is the condition under which `m` may be published on `d` (`DInvAt.put`). -/
structure DInvAt (d : Disk) (m : Manifest) (docs : Docs) (ns : Nat) : Prop where
  segs : SegsOk d m.segs
  snap : SnapOk d m
  replays : MapEq (replay (snapBase d m).1 (snapBase d m).2 (listedEntries d m.segs)) docs
  seqs : ∀ e ∈ listedEntries d m.segs, 0 < e.seq ∧ e.seq < ns
  base : (snapBase d m).2 < ns
  stale : ∀ s, m.snapSeq = some s → s ≤ (snapBase d m).2
  nodup : m.segs.Nodup

theorem DInvAt.dinv {d : Disk} {m : Manifest} {docs : Docs} {ns : Nat} (h : DInvAt d m docs ns)
    (hm : d.manifest = some m) : DInv d docs ns :=
  ⟨m, hm, h.segs, h.snap, h.replays, h.seqs, h.base, h.stale, h.nodup⟩

theorem DInv.exists {d : Disk} {docs : Docs} {ns : Nat} (h : DInv d docs ns) :
    ∃ m, d.manifest = some m ∧ DInvAt d m docs ns :=
  h.imp fun _ h => ⟨h.1, h.2.1, h.2.2.1, h.2.2.2.1, h.2.2.2.2.1, h.2.2.2.2.2.1, h.2.2.2.2.2.2.1, h.2.2.2.2.2.2.2⟩

theorem DInv.at {d : Disk} {docs : Docs} {ns : Nat} {m : Manifest} (h : DInv d docs ns)
    (hm : d.manifest = some m) : DInvAt d m docs ns := by
  obtain ⟨m', hm', h'⟩ := h.exists
  cases hm.symm.trans hm'
  exact h'

/-- publishing a MANIFEST the disk is good for (`DInvAt` reads the files only) -/
theorem DInvAt.put {d : Disk} {m : Manifest} {docs : Docs} {ns : Nat} (h : DInvAt d m docs ns) :
    DInv (d.apply (.manifestPut m)) docs ns :=
  ⟨m, rfl, h.segs, h.snap, h.replays, h.seqs, h.base, h.stale, h.nodup⟩

theorem recover_of_DInv (d : Disk) (docs : Docs) (ns : Nat) (h : DInv d docs ns) :
    ∃ r mx, recover d = .ok (r, mx) ∧ MapEq r docs ∧ mx < ns :=
  let ⟨_, hm, g⟩ := h.exists
  ⟨_, _, recover_eq hm g.segs g.snap, g.replays,
    (maxSeq_lt_iff ..).mpr ⟨g.base, fun e he => (g.seqs e he).2⟩⟩

/-- the invariant for what recovery computes: a restarted engine holds `r` and numbers from `mx + 1` -/
theorem dinv_tighten {d : Disk} {docs : Docs} {ns : Nat} (h : DInv d docs ns) :
    ∃ r mx, recover d = .ok (r, mx) ∧ MapEq r docs ∧ DInv d r (mx + 1) :=
  let ⟨m, hm, g⟩ := h.exists
  have hmax := (maxSeq_lt_iff (snapBase d m).2 (listedEntries d m.segs)).mp (Nat.lt_succ_self _)
  ⟨_, _, recover_eq hm g.segs g.snap, g.replays, DInvAt.dinv
    { g with replays := MapEq.refl _, seqs := fun e he => ⟨(g.seqs e he).1, hmax.2 e he⟩, base := hmax.1 } hm⟩

theorem DInv.congr {d : Disk} {a b : Docs} {ns : Nat} (h : DInv d a ns) (hab : MapEq a b) :
    DInv d b ns :=
  let ⟨_, hm, g⟩ := h.exists
  DInvAt.dinv { g with replays := g.replays.trans hab } hm

theorem DInv.mono {d : Disk} {a : Docs} {ns ns' : Nat} (h : DInv d a ns) (hle : ns ≤ ns') :
    DInv d a ns' :=
  let ⟨_, hm, g⟩ := h.exists
  DInvAt.dinv { g with seqs := fun e he => ⟨(g.seqs e he).1, Nat.lt_of_lt_of_le (g.seqs e he).2 hle⟩,
                       base := Nat.lt_of_lt_of_le g.base hle } hm

/-! ### what recovery reads

`DInv d docs ns` speaks of `d` only through its MANIFEST, the segments the MANIFEST lists and the
snapshot it points at.  Every step that touches some other file — a file the MANIFEST does not
(yet / any longer) reference — is an instance of `DInv.of_sameReferenced`. -/

/-- `d'` has the same MANIFEST as `d` and the same content in every file that MANIFEST references -/
def SameReferenced (d d' : Disk) : Prop :=
  d'.manifest = d.manifest ∧ ∀ m, d.manifest = some m →
    (∀ n ∈ m.segs, alookup n d'.wals = alookup n d.wals) ∧
    (∀ n, m.snap = some n → alookup n d'.snaps = alookup n d.snaps)

theorem SameReferenced.refl (d : Disk) : SameReferenced d d := ⟨rfl, fun _ _ => ⟨fun _ _ => rfl, fun _ _ => rfl⟩⟩

theorem listedEntries_congr {d d' : Disk} {segs : List Nat}
    (h : ∀ n ∈ segs, alookup n d'.wals = alookup n d.wals) :
    listedEntries d' segs = listedEntries d segs := by
  induction segs with
  | nil => rfl
  | cons n rest ih =>
    rw [listedEntries_cons, listedEntries_cons, ih fun k hk => h k (List.mem_cons_of_mem _ hk)]
    simp only [segEntries, h n (List.mem_cons_self ..)]

theorem snapBase_congr {d d' : Disk} {m : Manifest}
    (h : ∀ n, m.snap = some n → alookup n d'.snaps = alookup n d.snaps) :
    snapBase d' m = snapBase d m := by
  unfold snapBase
  cases hs : m.snap with
  | none => rfl
  | some n => simp only [h n hs]

theorem DInv.of_sameReferenced {d d' : Disk} {docs : Docs} {ns : Nat} (h : DInv d docs ns)
    (hs : SameReferenced d d') : DInv d' docs ns := by
  obtain ⟨m, hm, hsegs, hsnap, rest⟩ := h
  obtain ⟨hw, hsn⟩ := hs.2 m hm
  refine ⟨m, hs.1.trans hm, fun n hn => hw n hn ▸ hsegs n hn, fun n hn => hsn n hn ▸ hsnap n hn, ?_⟩
  rw [snapBase_congr hsn, listedEntries_congr hw]
  exact rest

/-- strict recovery of `d` yields `docs` (for some bound on the sequence numbers on disk) -/
def Rec (d : Disk) (docs : Docs) : Prop := ∃ ns, DInv d docs ns

theorem recover_of_Rec {d : Disk} {docs : Docs} (h : Rec d docs) :
    ∃ r mx, recover d = .ok (r, mx) ∧ MapEq r docs := by
  obtain ⟨ns, hd⟩ := h
  obtain ⟨r, mx, h1, h2, _⟩ := recover_of_DInv d docs ns hd
  exact ⟨r, mx, h1, h2⟩

theorem Rec.of_sameReferenced {d d' : Disk} {docs : Docs} (h : Rec d docs) (hs : SameReferenced d d') :
    Rec d' docs :=
  h.imp fun _ hd => hd.of_sameReferenced hs

theorem sameReferenced_wals {d : Disk} {n : Nat} {ws : List (Nat × WalFile)}
    (hoff : ∀ k, k ≠ n → alookup k ws = alookup k d.wals)
    (hun : ∀ m, d.manifest = some m → n ∉ m.segs) : SameReferenced d { d with wals := ws } :=
  ⟨rfl, fun m hm => ⟨fun k hk => hoff k fun e => hun m hm (e ▸ hk), fun _ _ => rfl⟩⟩

theorem sameReferenced_snaps {d : Disk} {n : Nat} {ss : List (Nat × Option SnapFile)}
    (hoff : ∀ k, k ≠ n → alookup k ss = alookup k d.snaps)
    (hun : ∀ m, d.manifest = some m → m.snap ≠ some n) : SameReferenced d { d with snaps := ss } :=
  ⟨rfl, fun m hm => ⟨fun _ _ => rfl, fun k hk => hoff k fun e => hun m hm (e ▸ hk)⟩⟩

/-! ### the actions, each under the side condition the engine establishes before issuing it -/

theorem Disk.apply_walAppend {d : Disk} {n : Nat} {w : WalFile} (hw : alookup n d.wals = some w) (e : WEntry) :
    d.apply (.walAppend n e) = { d with wals := aset n { w with entries := w.entries ++ [e] } d.wals } := by
  simp only [Disk.apply, hw]

theorem dinv_append {d : Disk} {docs : Docs} {ns : Nat} {n : Nat} {en : WEntry}
    (h : DInv d docs ns) (hseq : en.seq = ns)
    (hlast : ∀ m, d.manifest = some m → ∃ init, m.segs = init ++ [n]) :
    DInv (d.apply (.walAppend n en)) (docs.apply en) (ns + 1) := by
  -- `n` is listed last and once, so the listed entries grow by exactly `[en]`; `en.seq = ns` is above
  -- the snapshot's sequence number, so replay applies it
  obtain ⟨m, hm, g⟩ := h.exists
  obtain ⟨init, hinit⟩ := hlast m hm
  obtain ⟨w, hw, hc, hbm⟩ := g.segs n (hinit ▸ List.mem_append_right _ (List.mem_singleton_self n))
  have hninit : n ∉ init := fun hin =>
    (List.nodup_append.mp (hinit ▸ g.nodup)).2.2 n hin n (List.mem_singleton_self n) rfl
  have hle : listedEntries { d with wals := aset n { w with entries := w.entries ++ [en] } d.wals } m.segs
      = listedEntries d m.segs ++ [en] := by
    rw [hinit, listedEntries_append, listedEntries_append, listedEntries_singleton, listedEntries_singleton,
      segEntries_of_some alookup_aset_self, segEntries_of_some hw, List.append_assoc,
      listedEntries_congr fun k hk => alookup_aset_ne (ne_of_mem_of_not_mem hk hninit)]
  rw [Disk.apply_walAppend hw]
  refine DInvAt.dinv { g with segs := segsOk_aset g.segs n hc hbm, replays := ?_, seqs := ?_, base := Nat.lt_succ_of_lt g.base } hm
  · rw [hle]
    exact (replay_snoc_new (hseq ▸ g.base)).symm ▸ Docs.apply_congr g.replays en
  · rw [hle]
    intro e he
    rcases List.mem_append.mp he with h1 | h1
    · exact ⟨(g.seqs e h1).1, Nat.lt_succ_of_lt (g.seqs e h1).2⟩
    · cases List.mem_singleton.mp h1
      exact ⟨Nat.zero_lt_of_lt (hseq ▸ g.base), hseq ▸ Nat.lt_succ_self _⟩

theorem dinv_walCreate {d : Disk} {docs : Docs} {ns n : Nat} (h : DInv d docs ns)
    (hfresh : ∀ m, d.manifest = some m → n ∉ m.segs) :
    DInv (d.apply (.walCreate n)) docs ns :=
  h.of_sameReferenced (sameReferenced_wals (fun _ hk => alookup_aset_ne hk) hfresh)

/-- listing a segment that has just been created -/
theorem DInvAt.addSeg {d : Disk} {docs : Docs} {ns n : Nat} {m : Manifest} (g : DInvAt d m docs ns)
    (hfresh : n ∉ m.segs) (hw : alookup n d.wals = some {entries := []}) :
    DInvAt d { m with segs := m.segs ++ [n] } docs ns := by
  have hle : listedEntries d (m.segs ++ [n]) = listedEntries d m.segs := by
    rw [listedEntries_append, listedEntries_singleton, segEntries_of_some hw]
    exact List.append_nil _
  refine { g with segs := fun k hk => ?_, replays := hle.symm ▸ g.replays, seqs := hle.symm ▸ g.seqs, nodup := ?_ }
  · rcases List.mem_append.mp hk with h1 | h1
    · exact g.segs k h1
    · cases List.mem_singleton.mp h1; exact ⟨_, hw, rfl, rfl⟩
  · exact List.nodup_append.mpr ⟨g.nodup, by simp, fun a ha b hb' => by
      cases List.mem_singleton.mp hb'; exact fun e => hfresh (e ▸ ha)⟩

theorem dinv_snapPut {d : Disk} {docs : Docs} {ns n : Nat} {s : SnapFile} (h : DInv d docs ns)
    (hfresh : ∀ m, d.manifest = some m → m.snap ≠ some n) :
    DInv (d.apply (.snapPut n s)) docs ns :=
  h.of_sameReferenced (sameReferenced_snaps (fun _ hk => alookup_aset_ne hk) hfresh)

/-- pointing at a snapshot of the documents, taken at the last sequence number -/
theorem DInvAt.point {d : Disk} {docs : Docs} {ns n : Nat} {m : Manifest}
    (g : DInvAt d m docs ns) (hsnap : alookup n d.snaps = some (some ⟨ns - 1, docs⟩)) :
    DInvAt d { m with snap := some n, snapSeq := some (ns - 1) } docs ns := by
  have hbase : snapBase d { m with snap := some n, snapSeq := some (ns - 1) } = (docs, ns - 1) :=
    snapBase_of_some rfl hsnap
  refine { g with snap := fun k hk => ?_, replays := ?_, base := ?_, stale := ?_ }
  · cases hk; exact ⟨_, hsnap⟩
  · -- every listed entry is below `ns`, hence covered by the new snapshot
    exact hbase ▸ (replay_all_covered docs
      fun e he => ⟨(g.seqs e he).1, Nat.le_sub_one_of_lt (g.seqs e he).2⟩).symm ▸ MapEq.refl _
  · exact hbase ▸ Nat.sub_lt (Nat.zero_lt_of_lt g.base) Nat.one_pos
  · intro s hs'
    cases hs'
    exact hbase ▸ Nat.le_refl _

theorem replay_filter_covered {d : Disk} (base : Docs) {sq : Nat} {segs : List Nat} {keep : Nat → Bool}
    (h : ∀ n ∈ segs, keep n = false → ∀ e ∈ segEntries d n, 0 < e.seq ∧ e.seq ≤ sq) :
    replay base sq (listedEntries d (segs.filter keep)) = replay base sq (listedEntries d segs) := by
  induction segs generalizing base with
  | nil => rfl
  | cons n rest ih =>
    have hrest := ih (h := fun k hk => h k (List.mem_cons_of_mem _ hk))
    rw [listedEntries_cons, replay_append]
    cases hk : keep n with
    | true => rw [List.filter_cons_of_pos hk, listedEntries_cons, replay_append]; exact hrest _
    | false =>
      rw [List.filter_cons_of_neg (by simp [hk]), replay_all_covered base (h n (List.mem_cons_self ..) hk)]
      exact hrest _

/-- dropping from the list segments whose entries the snapshot covers -/
theorem DInvAt.prune {d : Disk} {docs : Docs} {ns sq : Nat} {m : Manifest} {keep : Nat → Bool}
    (g : DInvAt d m docs ns) (hsq : (snapBase d m).2 = sq)
    (hcov : ∀ n ∈ m.segs, keep n = false → ∀ e ∈ segEntries d n, 0 < e.seq ∧ e.seq ≤ sq) :
    DInvAt d { m with segs := m.segs.filter keep } docs ns :=
  { g with
    segs := fun k hk => g.segs k (List.mem_filter.mp hk).1
    replays := (replay_filter_covered _ (hsq ▸ hcov)).symm ▸ g.replays
    seqs := fun e he =>
      have ⟨n, hn, hen⟩ := (mem_listedEntries d e).mp he
      g.seqs e ((mem_listedEntries d e).mpr ⟨n, (List.mem_filter.mp hn).1, hen⟩)
    nodup := g.nodup.filter _ }

theorem dinv_unlinkWal {d : Disk} {docs : Docs} {ns n : Nat} (h : DInv d docs ns)
    (hun : ∀ m, d.manifest = some m → n ∉ m.segs) :
    DInv (d.apply (.unlinkWal n)) docs ns :=
  h.of_sameReferenced (sameReferenced_wals (fun _ hk => alookup_aerase_ne hk) hun)

theorem dinv_unlinkSnap (d : Disk) (docs : Docs) (ns n : Nat) (h : DInv d docs ns)
    (hun : ∀ m, d.manifest = some m → m.snap ≠ some n) :
    DInv (d.apply (.unlinkSnap n)) docs ns :=
  h.of_sameReferenced (sameReferenced_snaps (fun _ hk => alookup_aerase_ne hk) hun)

end KyroModel
