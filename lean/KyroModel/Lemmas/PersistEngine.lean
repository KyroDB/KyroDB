/-
The operations of the engine, one layer above the flows: what each answers and what it preserves.
`pStep_spec` (PersistHistory) assembles `OpSpec` for every operation but the batch delete from
`WriteShape` (insert, delete, metadata update) and the specifications of snapshot and restart;
the batch delete has its own, weaker, kill-point statement.
-/
import KyroModel.Lemmas.PersistOps

namespace KyroModel

/-- engine invariant at operation boundaries -/
def EInv (e : PEng) (d : Disk) : Prop := Frame e d e.store.docs e.nextSeq

theorem Frame.congr {e : PEng} {d : Disk} {a b : Docs} {ns : Nat} (f : Frame e d a ns)
    (h : MapEq a b) : Frame e d b ns :=
  { f with dinv := f.dinv.congr h }

theorem maybeSnapshot_keeps {e : PEng} {d : Disk} :
    (maybeSnapshot e d).1.store = e.store ∧ (maybeSnapshot e d).1.nextSeq = e.nextSeq := by
  unfold maybeSnapshot
  split
  · exact snapshot_keeps e d
  · exact ⟨rfl, rfl⟩

theorem snapshot_spec {e : PEng} {d : Disk} (h : EInv e d) :
    EInv (snapshot e d).1 (d.applyAll (snapshot e d).2) ∧
    AllPrefixes (fun d' => Rec d' e.store.docs) d (snapshot e d).2 := by
  obtain ⟨m, hm, g⟩ := h.dinv.exists
  -- under the invariant there is a MANIFEST and it never names a newer snapshot: the no-MANIFEST and
  -- the stale (`unlinkSnap`) branches of `snapshot` are dead
  have hstale : ¬ (m.snapSeq.getD 0 > e.nextSeq - 1) := by
    cases hq : m.snapSeq with
    | none => exact Nat.not_lt_zero _
    | some s => exact Nat.not_lt.mpr (Nat.le_sub_one_of_lt (Nat.lt_of_le_of_lt (g.stale s hq) g.base))
  unfold snapshot
  simp only [hm, hstale, ↓reduceIte]
  -- `keep` and `dead` of `Frame.snapshot` are read off the goal
  refine And.imp (·.of_eq rfl rfl) (allPrefixes_mono fun _ hd => ⟨_, hd⟩)
    (Frame.snapshot h hm (fun n hk => ?_) fun n hn => ?_)
  · simp only [Bool.not_eq_eq_eq_not, Bool.not_false, Bool.or_eq_true, List.contains_eq_mem,
      decide_eq_true_eq] at hk
    rcases hk with hk | hk
    -- `compactable` / `missingSegs` look at the disk after `snapPut`, `hdrop` wants `d`: `.wals` is the same
    · exact compactable_covered hk
    · exact ⟨(missingSegs_empty hk).1, fun en hen => nomatch (missingSegs_empty hk).2 ▸ hen⟩
  · simp [hn]

theorem maybeSnapshot_spec (e : PEng) {d : Disk} (h : EInv e d) :
    EInv (maybeSnapshot e d).1 (d.applyAll (maybeSnapshot e d).2) ∧
    AllPrefixes (fun d' => Rec d' e.store.docs) d (maybeSnapshot e d).2 := by
  unfold maybeSnapshot
  split
  · exact snapshot_spec h
  · exact ⟨h, ⟨_, h.dinv⟩⟩

theorem writeFlow_store {e : PEng} {d : Disk} {en : WEntry} {flen : Nat} {st' : AStore} :
    (writeFlow e d en flen st').1.store = st' :=
  maybeSnapshot_keeps.1

theorem writeFlow_spec {e : PEng} {d : Disk} {en : WEntry} (flen : Nat) {st' : AStore} (h : EInv e d)
    (hseq : en.seq = e.nextSeq) (hst : st'.docs = e.store.docs.apply en) :
    EInv (writeFlow e d en flen st').1 (d.applyAll (writeFlow e d en flen st').2) ∧
    AllPrefixes (fun d' => Rec d' e.store.docs ∨ Rec d' st'.docs) d (writeFlow e d en flen st').2 := by
  -- logEntry (append, then rotate) with the documents after the entry, then maybeSnapshot on those
  unfold writeFlow
  simp only
  have hl := logEntry_spec { e with nextSeq := e.nextSeq + 1 } flen (h.of_eq rfl rfl) hseq
  have hseq1 : (logEntry { e with nextSeq := e.nextSeq + 1 } d en flen).1.nextSeq = e.nextSeq + 1 :=
    (rotate_keeps _ _).2
  generalize logEntry { e with nextSeq := e.nextSeq + 1 } d en flen = r1 at hl hseq1 ⊢
  have hm := maybeSnapshot_spec { r1.1 with store := st', since := r1.1.since + 1 }
    (Frame.of_eq (e := r1.1) (by rw [hst, hseq1]; exact hl.1) rfl rfl)
  rw [applyAll_append]
  refine ⟨hm.1, allPrefixes_append ?_ ?_⟩
  · exact allPrefixes_mono (fun _ hd' => hd'.imp (fun h => ⟨_, h⟩) fun h => ⟨_, hst ▸ h⟩) hl.2
  · exact allPrefixes_mono (fun _ hd' => Or.inr hd') hm.2

theorem afterCompaction_docs {s : AStore} {cap : Nat} : (afterCompaction s cap).docs = s.docs := by
  unfold afterCompaction; split <;> rfl

theorem einv_afterCompaction {e : PEng} {d : Disk} (h : EInv e d) :
    EInv { e with store := afterCompaction e.store e.cfg.cap } d :=
  Frame.of_eq (e := e) (afterCompaction_docs.symm ▸ h) rfl rfl

theorem updateMeta_docs {s : AStore} {sq id : Nat} {md : MetaMap} :
    (s.updateMeta id md).docs = s.docs.apply ⟨sq, .update, id, [], md⟩ := by
  unfold AStore.updateMeta Docs.apply
  cases alookup id s.docs <;> rfl

/-- an operation that leaves the engine `e'` and issues the actions `as`: the engine invariant holds
    afterwards, and at every kill point inside it the disk recovers to the documents before or
    after it -/
structure OpSpec (e : PEng) (d : Disk) (e' : PEng) (as : List Action) : Prop where
  inv : EInv e' (d.applyAll as)
  kill : AllPrefixes (fun d' => Rec d' e.store.docs ∨ Rec d' e'.store.docs) d as

theorem OpSpec.refuse {e e' : PEng} {d : Disk} (h : EInv e' d) : OpSpec e d e' [] :=
  ⟨h, Or.inr ⟨_, h.dinv⟩⟩

theorem OpSpec.same {e e' : PEng} {d : Disk} {as : List Action} (h : EInv e' (d.applyAll as))
    (hk : AllPrefixes (fun d' => Rec d' e.store.docs) d as) : OpSpec e d e' as :=
  ⟨h, allPrefixes_mono (fun _ => Or.inl) hk⟩

/-- The two shapes a single-document write can take: refused before anything is logged, or one
    `writeFlow` answered with `ack` that leaves the documents `docs'`.  Each operation is analysed
    once (`p*_shape`); what it preserves (`opSpec`) and what it answers (`result` — no invariant
    needed) follow from the shape. -/
inductive WriteShape (e : PEng) (d : Disk) (ack : POut) (docs' : Docs) :
    PEng → List Action → POut → Prop
  | refuse (e' : PEng) (out : POut) (hout : out ≠ ack) (hd : e'.store.docs = e.store.docs)
      (hinv : EInv e d → EInv e' d) : WriteShape e d ack docs' e' [] out
  | write (e0 : PEng) (en : WEntry) (flen : Nat) (st' : AStore) (hd : e0.store.docs = e.store.docs)
      (hinv : EInv e d → EInv e0 d) (hseq : en.seq = e0.nextSeq)
      (hst : st'.docs = e0.store.docs.apply en) (hdocs : st'.docs = docs') :
      WriteShape e d ack docs' (writeFlow e0 d en flen st').1 (writeFlow e0 d en flen st').2 ack

theorem WriteShape.opSpec {e e' : PEng} {d : Disk} {ack out : POut} {docs' : Docs} {as : List Action}
    (h : WriteShape e d ack docs' e' as out) (hi : EInv e d) : OpSpec e d e' as := by
  cases h with
  | refuse _ _ _ _ hinv => exact .refuse (hinv hi)
  | write e0 en flen st' hd hinv hseq hst _ =>
    have hw := writeFlow_spec flen (hinv hi) hseq hst
    exact ⟨hw.1, by rw [writeFlow_store, ← hd]; exact hw.2⟩

theorem WriteShape.result {e e' : PEng} {d : Disk} {ack out : POut} {docs' : Docs} {as : List Action}
    (h : WriteShape e d ack docs' e' as out) :
    (out = ack → e'.store.docs = docs') ∧ (out ≠ ack → e'.store.docs = e.store.docs ∧ as = []) := by
  cases h with
  | refuse _ _ hout hd _ => exact ⟨fun h => absurd h hout, fun _ => ⟨hd, rfl⟩⟩
  | write e0 en flen st' _ _ _ _ hdocs =>
    exact ⟨fun _ => (congrArg AStore.docs writeFlow_store).trans hdocs, fun h => absurd rfl h⟩

/-- insert / overwrite, for every input the validators let through or refuse before logging (a
    refusal by the ANN index *after* the log append is excluded — unreachable for validated inputs
    since fix d09e19e, and observed 0 times by the correspondence run) -/
theorem pInsert_shape (e : PEng) (d : Disk) (id : Nat) (v : List Nat) (m : MetaMap) {acc : Accept}
    (flen fd : Nat) (hacc : acc ≠ .index) :
    WriteShape e d .ok (aset id (v, m) e.store.docs) (pInsert e d id v m acc flen fd).1
      (pInsert e d id v m acc flen fd).2.1 (pInsert e d id v m acc flen fd).2.2 := by
  unfold pInsert
  by_cases hdg : e.degraded = true
  · rw [if_pos hdg]; exact .refuse e _ nofun rfl (fun h => h)
  · rw [if_neg hdg]
    cases acc with
    | preflight => exact .refuse e _ nofun rfl (fun h => h)
    | index => exact absurd rfl hacc
    | yes =>
      by_cases hfull : (afterCompaction e.store e.cfg.cap).used ≥ e.cfg.cap
      · simp only [reduceCtorEq, hfull, ↓reduceIte]
        exact .refuse _ _ nofun afterCompaction_docs einv_afterCompaction
      · simp only [reduceCtorEq, hfull, ↓reduceIte]
        exact .write _ _ _ _ afterCompaction_docs einv_afterCompaction rfl rfl
          (congrArg (aset id (v, m)) afterCompaction_docs)

theorem pDelete_shape (e : PEng) (d : Disk) (id flen : Nat) :
    WriteShape e d (.bool true) (aerase id e.store.docs) (pDelete e d id flen).1
      (pDelete e d id flen).2.1 (pDelete e d id flen).2.2 := by
  unfold pDelete
  by_cases hdg : e.degraded = true
  · rw [if_pos hdg]; exact .refuse e _ nofun rfl (fun h => h)
  · rw [if_neg hdg]
    cases e.store.has id with
    | false => exact .refuse e _ nofun rfl (fun h => h)
    | true =>
      simp only [Bool.not_true, Bool.false_eq_true, ↓reduceIte]
      exact .write _ _ _ _ rfl (fun h => h) rfl rfl rfl

/-- metadata update (the logged map is already merged) -/
theorem pUpdate_shape (e : PEng) (d : Disk) (id : Nat) (newMd : MetaMap) (flen : Nat) :
    WriteShape e d (.bool true) (e.store.updateMeta id newMd).docs (pUpdate e d id newMd flen).1
      (pUpdate e d id newMd flen).2.1 (pUpdate e d id newMd flen).2.2 := by
  unfold pUpdate
  by_cases hdg : e.degraded = true
  · rw [if_pos hdg]; exact .refuse e _ nofun rfl (fun h => h)
  · rw [if_neg hdg]
    cases e.store.has id with
    | false => exact .refuse e _ nofun rfl (fun h => h)
    | true =>
      simp only [Bool.not_true, Bool.false_eq_true, ↓reduceIte]
      exact .write _ _ _ _ rfl (fun h => h) rfl updateMeta_docs rfl

/-- **clean restart**: strict recovery succeeds, the recovered documents are the live ones, and
    the restarted engine satisfies the invariant again (so the argument repeats for any number
    of consecutive restarts) -/
theorem pRestart_spec (e : PEng) (d : Disk) (h : EInv e d) :
    ∃ e' as, pRestart e.cfg e.nextName d = .ok (e', as) ∧ MapEq e'.store.docs e.store.docs ∧
      EInv e' (d.applyAll as) ∧ AllPrefixes (fun d' => Rec d' e.store.docs) d as := by
  obtain ⟨r, mx, hrec, hreq, hd⟩ := dinv_tighten h.dinv
  obtain ⟨m, hm, _⟩ := h.dinv.exists
  unfold pRestart
  simp only [hrec, hm]
  -- the two start-up actions open a new segment, for the documents and the tight bound recovery computes
  exact ⟨_, _, rfl, hreq, And.imp_right (allPrefixes_mono fun _ hd' => ⟨_, hd'.congr hreq⟩)
    (Frame.newSegment { h with dinv := hd } hm _ rfl rfl)⟩

theorem pInit_spec (cfg : PCfg) : EInv (pInit cfg).1 (emptyDisk.applyAll (pInit cfg).2) where
  -- the directory is concrete: MANIFEST listing segment 0, which exists and is empty; no snapshot
  dinv := DInvAt.dinv (m := ⟨none, none, [0]⟩) {
    segs := fun n hn => by cases List.mem_singleton.mp hn; exact ⟨{entries := []}, rfl, rfl, rfl⟩
    snap := nofun
    replays := fun _ => rfl
    seqs := fun e (he : e ∈ []) => absurd he List.not_mem_nil
    base := Nat.zero_lt_one
    stale := nofun
    nodup := List.nodup_cons.mpr ⟨List.not_mem_nil, List.nodup_nil⟩ } rfl
  active := fun m hm => by cases hm; exact ⟨[], rfl⟩
  walNames := fun n (hn : n ∈ [0]) => by cases List.mem_singleton.mp hn; exact Nat.zero_lt_one
  snapNames := fun n (hn : n ∈ []) => absurd hn List.not_mem_nil

def eraseAll (docs : Docs) (ids : List Nat) : Docs := ids.foldl (fun d id => aerase id d) docs

/-- appending the Delete entries of a batch one frame at a time: after `k` frames the disk
    recovers to the documents with the first `k` requested ids removed -/
theorem batchAppend_spec {e : PEng} (ids : List Nat) {d : Disk} {docs : Docs} {ns : Nat}
    (f : Frame e d docs ns) :
    Frame e (d.applyAll ((batchEntries ns ids).map (Action.walAppend e.active)))
      (eraseAll docs ids) (ns + ids.length) ∧
    AllPrefixes (fun d' => ∃ k, Rec d' (eraseAll docs (ids.take k))) d
      ((batchEntries ns ids).map (Action.walAppend e.active)) := by
  induction ids generalizing d docs ns with
  | nil => exact ⟨f, 0, _, f.dinv⟩
  | cons id rest ih =>
    have hrec := ih (f.append ⟨ns, .delete, id, [], []⟩ rfl)
    exact ⟨(Nat.add_right_comm ns 1 rest.length ▸ hrec.1 :), ⟨0, _, f.dinv⟩,
      allPrefixes_mono (fun _ ⟨k, hr⟩ => ⟨k + 1, hr⟩) hrec.2⟩

theorem foldl_delete_docs {ids : List Nat} {s : AStore} :
    (ids.foldl AStore.delete s).docs = eraseAll s.docs ids := by
  induction ids generalizing s with
  | nil => rfl
  | cons id rest ih => exact ih

theorem batchFlow_docs (e : PEng) (d : Disk) (occ : List Nat) (flen : Nat) :
    (batchFlow e d occ flen).1.store.docs = eraseAll e.store.docs occ := by
  unfold batchFlow
  simp only
  rw [maybeSnapshot_keeps.1]
  exact foldl_delete_docs.trans (congrArg (eraseAll ·.docs occ) (rotate_keeps _ _).1)

theorem batchFlow_spec {e : PEng} {d : Disk} {occ : List Nat} (flen : Nat) (h : EInv e d) :
    EInv (batchFlow e d occ flen).1 (d.applyAll (batchFlow e d occ flen).2) ∧
    AllPrefixes (fun d' => ∃ k, Rec d' (eraseAll e.store.docs (occ.take k))) d (batchFlow e d occ flen).2 := by
  -- the appends one by one (`batchAppend_spec`), then rotate, then maybeSnapshot
  -- once all frames are appended, every kill point recovers to the documents after the batch
  have hfull : ∀ d', Rec d' (eraseAll e.store.docs occ) →
      ∃ k, Rec d' (eraseAll e.store.docs (occ.take k)) :=
    fun d' hr => ⟨occ.length, (List.take_length (l := occ)).symm ▸ hr⟩
  unfold batchFlow
  simp only
  have hA := batchAppend_spec occ h
  simp only [applyAll_append]
  generalize hdA : d.applyAll ((batchEntries e.nextSeq occ).map (Action.walAppend e.active)) = dA at hA ⊢
  have hR := rotate_spec { e with nextSeq := e.nextSeq + occ.length, bytes := e.bytes + flen * occ.length }
    (hA.1.of_eq rfl rfl)
  have hk := rotate_keeps { e with nextSeq := e.nextSeq + occ.length, bytes := e.bytes + flen * occ.length } dA
  generalize rotate { e with nextSeq := e.nextSeq + occ.length, bytes := e.bytes + flen * occ.length } dA
    = r2 at hR hk ⊢
  have hdocs : (occ.foldl AStore.delete r2.1.store).docs = eraseAll e.store.docs occ :=
    foldl_delete_docs.trans (congrArg (eraseAll ·.docs occ) hk.1)
  have f3 : Frame r2.1 (dA.applyAll r2.2) (occ.foldl AStore.delete r2.1.store).docs r2.1.nextSeq := by
    rw [hdocs, show r2.1.nextSeq = e.nextSeq + occ.length from hk.2]; exact hR.1
  have hM := maybeSnapshot_spec
    { r2.1 with store := occ.foldl AStore.delete r2.1.store, since := r2.1.since + occ.length }
    (f3.of_eq rfl rfl)
  refine ⟨hM.1, allPrefixes_append (allPrefixes_append hA.2 ?_) ?_⟩
  · rw [hdA]
    exact allPrefixes_mono (fun d' hd => hfull d' ⟨_, hd⟩) hR.2
  · rw [applyAll_append, hdA]
    exact allPrefixes_mono (fun d' (hr : Rec d' (occ.foldl AStore.delete r2.1.store).docs) =>
      hfull d' (hdocs ▸ hr)) hM.2

/-- **batch delete**.  First two conjuncts, no invariant needed: the answer decides which documents
    the engine then holds.  Third, under the invariant: at the kill points *inside* the batch the
    disk recovers to the documents with a *prefix* of the requested ids removed (one frame per id)
    — the batch is not atomic w.r.t. a crash, known finding KF-C01-batch-delete-not-atomic. -/
theorem pBatchDelete_spec (e : PEng) (d : Disk) (ids : List Nat) (flen : Nat) :
    ((pBatchDelete e d ids flen).2.2 ≠ .err → (pBatchDelete e d ids flen).1.store.docs =
      eraseAll e.store.docs (ids.filter fun id => e.store.has id)) ∧
    ((∀ n, (pBatchDelete e d ids flen).2.2 ≠ .count n) →
      (pBatchDelete e d ids flen).1.store.docs = e.store.docs ∧ (pBatchDelete e d ids flen).2.1 = []) ∧
    (EInv e d →
      EInv (pBatchDelete e d ids flen).1 (d.applyAll (pBatchDelete e d ids flen).2.1) ∧
      AllPrefixes (fun d' => ∃ k, Rec d' (eraseAll e.store.docs
        ((ids.filter fun id => e.store.has id).take k))) d (pBatchDelete e d ids flen).2.1) := by
  unfold pBatchDelete
  generalize ids.filter (fun id => e.store.has id) = occ
  cases e.degraded with
  | true => exact ⟨fun h => absurd rfl h, fun _ => ⟨rfl, rfl⟩, fun h => ⟨h, 0, _, h.dinv⟩⟩
  | false =>
    cases occ with
    | nil => exact ⟨fun _ => rfl, fun h => absurd rfl (h 0), fun h => ⟨h, 0, _, h.dinv⟩⟩
    | cons x xs =>
      simp only [Bool.false_eq_true, ↓reduceIte, List.length_cons, Nat.succ_ne_zero, batchFlow_docs]
      exact ⟨fun _ => trivial, fun h => absurd rfl (h _), batchFlow_spec flen⟩

end KyroModel
