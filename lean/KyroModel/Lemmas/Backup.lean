/-
Lemmas for the backup model: insertion sort on sorted input, overlay lookups and the overlay as a
directory recovery cannot tell from the source (`recover_overlay`), what a backup that
succeeds ships, ancestor chains, retention (`mem_keptAfterPrune`) and the point-in-time choice
(`newestOf_mem`).
-/
import KyroModel.Persist.Backup
import KyroModel.Lemmas.DiskInv

namespace KyroModel

theorem mem_insertAsc (x y : Nat) (l : List Nat) : y ∈ insertAsc x l ↔ y = x ∨ y ∈ l := by
  induction l with
  | nil => simp [insertAsc]
  | cons z zs ih =>
    simp only [insertAsc]
    split
    · simp
    · simp only [List.mem_cons, ih]
      exact or_left_comm

theorem sortAsc_cons (x : Nat) (xs : List Nat) : sortAsc (x :: xs) = insertAsc x (sortAsc xs) := rfl

theorem mem_sortAsc (y : Nat) {l : List Nat} : y ∈ sortAsc l ↔ y ∈ l := by
  induction l with
  | nil => exact Iff.rfl
  | cons x xs ih => rw [sortAsc_cons, mem_insertAsc, ih, List.mem_cons]

def Asc (l : List Nat) : Prop := l.Pairwise (· < ·)

theorem sortAsc_of_asc {l : List Nat} (h : Asc l) : sortAsc l = l := by
  induction l with
  | nil => rfl
  | cons x xs ih =>
    have hx := List.pairwise_cons.mp h
    rw [sortAsc_cons, ih hx.2]
    cases xs with
    | nil => rfl
    | cons y ys =>
      have : x < y := hx.1 y (List.mem_cons_self ..)
      simp [insertAsc, Nat.le_of_lt this]

theorem dedupAdj_of_asc {l : List Nat} (h : Asc l) : dedupAdj l = l := by
  induction l with
  | nil => rfl
  | cons x xs ih =>
    have hx := List.pairwise_cons.mp h
    cases xs with
    | nil => rfl
    | cons y ys =>
      have hlt : x < y := hx.1 y (List.mem_cons_self ..)
      have : x ≠ y := Nat.ne_of_lt hlt
      simp only [dedupAdj, this, ↓reduceIte]
      rw [ih hx.2]

theorem rewriteSegs_id {listed discovered : List Nat} (hasc : Asc listed)
    (hsub : ∀ n ∈ discovered, n ∈ listed) : rewriteSegs listed discovered = listed := by
  unfold rewriteSegs
  have : discovered.filter (fun n => !listed.contains n) = [] := by
    rw [List.filter_eq_nil_iff]
    intro n hn
    simp [hsub n hn]
  rw [this, List.append_nil, sortAsc_of_asc hasc, dedupAdj_of_asc hasc]

/-- the fold `overlay` runs over each file map, with `src` the map the shipped pairs come from -/
theorem alookup_overlaid {α : Type} {src : List (Nat × α)} {n : Nat} {l acc : List (Nat × α)}
    (hcons : ∀ p ∈ l, alookup p.1 src = some p.2)
    (hacc : n ∉ akeys l → alookup n acc = alookup n src) :
    alookup n (l.foldl (fun acc (k, v) => aset k v acc) acc) = alookup n src := by
  induction l generalizing acc with
  | nil => exact hacc List.not_mem_nil
  | cons p rest ih =>
    refine ih (acc := aset p.1 p.2 acc) (fun q hq => hcons q (List.mem_cons_of_mem _ hq)) fun hr => ?_
    by_cases hn : n = p.1
    · rw [hn, alookup_aset_self, hcons p (List.mem_cons_self ..)]
    · rw [alookup_aset_ne hn]
      exact hacc fun h => (List.mem_cons.mp h).elim hn hr

theorem mem_shipWals (d : Disk) (names : List Nat) (p : Nat × WalFile) :
    p ∈ shipWals d names ↔ p.1 ∈ names ∧ alookup p.1 d.wals = some p.2 := by
  obtain ⟨n, w⟩ := p
  simp only [shipWals, List.mem_filterMap, Option.map_eq_some_iff, Prod.mk.injEq]
  constructor
  · rintro ⟨k, hk, w', hw', rfl, rfl⟩
    exact ⟨hk, hw'⟩
  · rintro ⟨hk, hw⟩
    exact ⟨n, hk, w, hw, rfl, rfl⟩

theorem shipWals_keys_sub (d : Disk) (names : List Nat) (n : Nat)
    (h : n ∈ (shipWals d names).map (·.1)) : n ∈ names := by
  obtain ⟨p, hp, rfl⟩ := List.mem_map.mp h
  exact ((mem_shipWals d names p).mp hp).1

/-- Extracting `b` over `t` gives a directory recovery cannot tell from `d` — it holds `d`'s
    MANIFEST and reads like `d` in everything that MANIFEST references — provided what `b` ships
    comes from `d` and every referenced file it does not ship is in `t` already as it is in `d`. -/
theorem recover_overlay {d t : Disk} {docs : Docs} {ns : Nat} (h : DInv d docs ns) {m : Manifest}
    (hm : d.manifest = some m) {b : Backup} {names : List Nat} (hbm : b.manifest = some m)
    (hwals : b.wals = shipWals d names) (hsnaps : ∀ p ∈ b.snaps, alookup p.1 d.snaps = some p.2)
    (hold : ∀ n ∈ m.segs, n ∉ akeys b.wals → alookup n t.wals = alookup n d.wals)
    (hsnap : ∀ n, m.snap = some n → n ∉ akeys b.snaps → alookup n t.snaps = alookup n d.snaps) :
    ∃ r mx, recover (overlay t b) = .ok (r, mx) ∧ MapEq r docs := by
  refine recover_of_Rec ⟨ns, h.of_sameReferenced ⟨by simp only [overlay, hbm, hm], fun m' hm' => ?_⟩⟩
  cases hm.symm.trans hm'
  exact ⟨fun n hn => alookup_overlaid (fun p hp => ((mem_shipWals d names p).mp (hwals ▸ hp)).2) (hold n hn),
    fun n hn => alookup_overlaid hsnaps (hsnap n hn)⟩

theorem restore_single {b : Backup} (hf : b.full = true) (hd : b.damaged = false)
    (hg : b.gone = false) : restoreBackup [b] 0 false false = .ok (overlay emptyDisk b) := by
  obtain ⟨_, _, _, _, _, _, _, _, _, _⟩ := b
  cases hf; cases hd; cases hg
  rfl

theorem selectSegs_sub {par : Backup} {onDisk : List Nat} {modified : Nat → Bool} {n : Nat}
    (h : n ∈ selectSegs par onDisk modified) : n ∈ onDisk := by
  unfold selectSegs at h
  split at h <;> exact (List.mem_filter.mp h).1

/-- what an incremental ships of snapshots comes from `d`, and is the pointed file or nothing -/
theorem shipSnapshot_ok {bs : List Backup} {d : Disk} {m : Manifest} {pi : Nat}
    {r : Option Nat × List (Nat × Option SnapFile)} (h : shipSnapshot bs d m pi = .ok r) :
    (∀ q ∈ r.2, alookup q.1 d.snaps = some q.2) ∧ ∀ p, m.snap = some p → r.2 = [] ∨ p ∈ akeys r.2 := by
  unfold shipSnapshot at h
  split at h
  · cases h; simp
  split at h
  · cases h; simp
  split at h
  · cases h
  cases h
  simp [*, akeys]

theorem incrBackup_ok {bs : List Backup} {d : Disk} {pi : Nat} {modified : Nat → Bool} {ts : Nat}
    {b : Backup} {m : Manifest} (hm : d.manifest = some m)
    (hb : incrBackup bs d pi modified ts = .ok b) :
    ∃ sel sn sfs, b = mkIncr d m pi ts sel sn sfs ∧ (∀ n ∈ sel, n ∈ akeys d.wals) ∧
      (∀ q ∈ sfs, alookup q.1 d.snaps = some q.2) ∧ ∀ p, m.snap = some p → sfs = [] ∨ p ∈ akeys sfs := by
  unfold incrBackup at hb
  split at hb
  · cases hb
  rename_i par _
  simp only [incrWithParent, hm] at hb
  split at hb
  · cases hb
  split at hb
  · cases hb
  split at hb
  · cases hb
  rename_i r hr
  cases hb
  exact ⟨_, _, _, rfl, fun n hn => (mem_sortAsc n).mp (selectSegs_sub hn),
    shipSnapshot_ok hr⟩

theorem fullBackup_succeeds {d : Disk} {m : Manifest} (hm : d.manifest = some m) (ts : Nat)
    (hsegs : ∀ n ∈ m.segs, n ∈ akeys d.wals)
    (hsnap : ∀ p, m.snap = some p → ∃ sf, alookup p d.snaps = some sf) :
    ∃ sfs, fullBackup d ts = .ok (mkFull d ts
        (some { m with segs := rewriteSegs m.segs (sortAsc (akeys d.wals)) })
        (rewriteSegs m.segs (sortAsc (akeys d.wals))) m.snap sfs) ∧
      (∀ q ∈ sfs, alookup q.1 d.snaps = some q.2) ∧ ∀ p, m.snap = some p → p ∈ akeys sfs := by
  have hany : (m.segs.any fun n => !(sortAsc (akeys d.wals)).contains n) = false := by
    rw [List.any_eq_false]
    intro n hn
    simp [(mem_sortAsc n).mpr (hsegs n hn)]
  cases hp : m.snap with
  | none =>
    exact ⟨[], by simp only [fullBackup, hm, fullWithManifest, hany, hp, Bool.false_eq_true, ↓reduceIte],
      fun _ h => (nomatch h), fun _ h => (nomatch h)⟩
  | some p =>
    obtain ⟨sf, hsf⟩ := hsnap p hp
    exact ⟨[(p, sf)],
      by simp only [fullBackup, hm, fullWithManifest, hany, hp, hsf, Bool.false_eq_true, ↓reduceIte],
      fun q hq => by cases List.mem_singleton.mp hq; exact hsf,
      fun p' hp' => by cases hp'; exact List.mem_cons_self ..⟩

/-- `create_incremental_backup` takes the id of an existing backup: a parent precedes its child (indices are creation order) -/
def ParentsBefore (bs : List Backup) : Prop :=
  ∀ (i : Nat) (b : Backup) (p : Nat), bs[i]? = some b → b.parent = some p → p < i

theorem mem_chainUp_succ (bs : List Backup) (f r i : Nat) :
    i ∈ chainUp bs (f + 1) r ↔
      i = r ∨ ∃ b p, bs[r]? = some b ∧ b.parent = some p ∧ i ∈ chainUp bs f p := by
  rw [chainUp, List.mem_cons]
  refine or_congr Iff.rfl ⟨fun h => ?_, ?_⟩
  · split at h
    · cases h
    · split at h
      · cases h
      · exact ⟨_, _, ‹_›, ‹_›, h⟩
  · rintro ⟨b, p, hb, hp, h⟩
    rw [hb]
    show i ∈ match b.parent with | none => [] | some p => chainUp bs f p
    rw [hp]
    exact h

theorem chainUp_closed {bs : List Backup} (hwf : ParentsBefore bs) :
    ∀ (f r : Nat), r < f → ∀ i ∈ chainUp bs f r, ∀ (b : Backup) (p : Nat), bs[i]? = some b →
      b.parent = some p → p ∈ chainUp bs f r
  | 0, r, hr => absurd hr (Nat.not_lt_zero r)
  | f + 1, r, hr => by
    intro i hi b p hb hp
    rw [mem_chainUp_succ] at hi ⊢
    rcases hi with rfl | ⟨br, pr, hbr, hpr, hi⟩
    · -- `i` heads the chain, its parent heads the tail: `p < i ≤ f` leaves fuel for one step
      have hlt : p < f := Nat.lt_of_lt_of_le (hwf i b p hb hp) (Nat.le_of_lt_succ hr)
      cases f with
      | zero => exact absurd hlt (Nat.not_lt_zero p)
      | succ f' => exact Or.inr ⟨b, p, hb, hp, List.mem_cons_self ..⟩
    · have : pr < f := Nat.lt_of_lt_of_le (hwf r br pr hbr hpr) (Nat.le_of_lt_succ hr)
      exact Or.inr ⟨br, pr, hbr, hpr, chainUp_closed hwf f pr this i hi b p hb hp⟩

theorem mem_keptAfterPrune {bs : List Backup} {pol : Policy} {now i : Nat} :
    i ∈ keptAfterPrune bs pol now ↔
      i ∈ present bs ∧ ∃ r ∈ retained0 bs pol now, i ∈ chainUp bs (r + 1) r := by
  simp only [keptAfterPrune, List.mem_filter, List.any_eq_true, List.contains_iff_mem]

theorem newestOf_mem {bs : List Backup} {cands : List Nat} {w : Nat}
    (h : newestOf bs cands = some w) : w ∈ cands := by
  refine List.foldlRecOn (motive := fun best : Option Nat => ∀ w, best = some w → w ∈ cands) cands _ (b := none)
    (fun _ h => nomatch h) (fun best hb i hi w hw => ?_) w h
  cases best with
  | none => cases hw; exact hi
  | some j =>
    simp only at hw
    split at hw
    · cases hw; exact hi
    · exact hb w hw

end KyroModel
