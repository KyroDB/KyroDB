/-
The oversampling estimate is in `[1, 50]` (`oversample_bounds`, through `minTyped_mem`), and what
the search validator accepts (`validateSearch_ok_iff`, through one lemma about a guard).
-/
import KyroModel.Server.Validate
import KyroModel.Lemmas.FilterInd

namespace KyroModel

theorem minTyped_mem : ∀ (fs : List Filter) (m : Nat), minTyped fs = some m →
    ∃ f ∈ fs, oversample f = m
  | [], _, h => nomatch h
  | f :: fs, m, h => by
    by_cases hf : f = .none
    · subst hf
      exact (minTyped_mem fs m h).imp fun g => And.imp_left (List.mem_cons_of_mem _)
    · -- `minTyped.eq_3` is the catch-all clause (child ≠ `.none`): no split over the constructors
      rw [minTyped.eq_3 f fs hf] at h
      cases hr : minTyped fs with
      | none => rw [hr] at h; exact ⟨f, List.mem_cons_self .., Option.some.inj h⟩
      | some m' =>
        obtain ⟨g, hg, rfl⟩ := minTyped_mem fs m' hr
        rw [hr] at h
        have h := Option.some.inj h
        rw [Nat.min_def] at h
        split at h
        · exact ⟨f, List.mem_cons_self .., h⟩
        · exact ⟨g, List.mem_cons_of_mem _ hg, h⟩

theorem clampNat_bounds (x : Nat) {lo hi : Nat} (h : lo ≤ hi) :
    lo ≤ clampNat x lo hi ∧ clampNat x lo hi ≤ hi :=
  ⟨Nat.le_max_left .., Nat.max_le.mpr ⟨h, Nat.min_le_left ..⟩⟩

theorem oversample_bounds (f : Filter) : 1 ≤ oversample f ∧ oversample f ≤ 50 := by
  induction f using Filter.induction with
  | none | exact | range | not_none => simp [oversample]
  | inMatch k vs => simp only [oversample]; split <;> (try split) <;> omega
  | and fs ih =>
    simp only [oversample]
    split
    · omega
    · cases h : minTyped fs with
      | none => simp
      | some m =>
        obtain ⟨g, hg, rfl⟩ := minTyped_mem fs m h
        exact ih g hg
  | or fs =>
    have := clampNat_bounds (sumTyped fs / max fs.length 1 * 2) (by decide : 2 ≤ 20)
    simp only [oversample]
    split <;> omega
  | not_some f =>
    by_cases hf : f = .none
    · subst hf; simp [oversample]
    · have hc := clampNat_bounds (50 / oversample f) (by decide : 10 ≤ 50)
      -- `oversample.eq_9`: the catch-all clause of `.not (some f)`, for `f ≠ .none`
      rw [oversample.eq_9 f hf]
      exact ⟨Nat.le_trans (by decide) hc.1, hc.2⟩

theorem searchFactor_pos (ns : Bool) (f : Option Filter) : 1 ≤ searchFactor ns f := by
  have hb : 1 ≤ filterBase f := by
    cases f with
    | none => simp [filterBase]
    | some g => exact (oversample_bounds g).1
  unfold searchFactor
  split <;> omega

theorem guard_eq_ok {ε α : Type} {c : Prop} [Decidable c] {e : ε} {x : Except ε α} {a : α} :
    (if c then .error e else x) = .ok a ↔ ¬ c ∧ x = .ok a := by
  by_cases h : c <;> simp [h]

theorem validateSearch_ok_iff {len : Nat} {finite : Bool} {k ef : Nat} {ns : Bool}
    {f : Option Filter} {p : Plan} :
    validateSearch len finite k ef ns f = .ok p ↔
      (1 ≤ len ∧ len ≤ 4096 ∧ finite = true ∧ 1 ≤ k ∧ k ≤ 1000 ∧ ef ≤ 10000) ∧
      p = ⟨min (k * searchFactor ns f) 10000, if ef = 0 then none else some ef⟩ := by
  simp only [validateSearch, guard_eq_ok, Except.ok.injEq, Bool.not_eq_true', Bool.not_eq_false,
    gt_iff_lt, Nat.not_lt, ← Nat.one_le_iff_ne_zero, and_assoc,
    eq_comm (a := p)]

end KyroModel
