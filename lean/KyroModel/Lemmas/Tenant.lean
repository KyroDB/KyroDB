/-
Lemmas next to the tenant layer (`Server/Tenant.lean`): metadata, census and counter facts, and equations that say
case by case what a path of the model does — the id-addressed writes (`insertCore_eq`, `insert_eq`, `delete_eq`,
`updateMeta_eq`), `deleteMany` (`deleteMany_fst`, `deleteMany_lookup`), the filter delete (`batchDeleteFilter_eq`),
BulkLoadHnsw (`bulkLoad_eq`, `loadAll_fst`), BulkInsert's state (`bulkInsert_fst`) and the two read functions
(`readDoc_eq_some`, `passes_eq_some`).  `batchDeleteIds`, `search` and the counts of `bulkInsert` have none and are
unfolded where they are used.
-/
import KyroModel.Lemmas.FilterInd
import KyroModel.Server.Tenant

namespace KyroModel.Srv

theorem gid_div {t : Tn} {lid g : Nat} (h : gid t lid = some g) : g / limit32 = t.idx := by
  unfold gid at h
  split at h
  · rename_i hl
    cases h
    rw [Nat.mul_comm, Nat.mul_add_div (by decide : limit32 > 0), Nat.div_eq_of_lt hl]
    omega
  · cases h

theorem gid_filterMap_div {t : Tn} {lids : List Nat} {g : Nat} (h : g ∈ lids.filterMap (gid t)) :
    g / limit32 = t.idx := by
  obtain ⟨l, _, hl⟩ := List.mem_filterMap.mp h
  exact gid_div hl

theorem mget_cons (p : String × String) (m : Meta) (k : String) :
    mget (p :: m) k = if p.1 = k then some p.2 else mget m k := by
  unfold mget
  rw [List.find?_cons]
  by_cases h : p.1 = k
  · simp [h]
  · simp [h, beq_eq_false_iff_ne.mpr h]

theorem mget_set (k k' v : String) (m : Meta) :
    mget (Meta.set k' v m) k = if k' = k then some v else mget m k := by
  induction m with
  | nil => rw [Meta.set, mget_cons]
  | cons p rest ih =>
    obtain ⟨k2, v2⟩ := p
    rw [Meta.set]
    by_cases h1 : k' < k2
    · rw [if_pos h1, mget_cons]
    · rw [if_neg h1]
      by_cases h : k' = k2
      · subst h
        rw [if_pos rfl, mget_cons, mget_cons]
        by_cases e : k' = k
        · rw [if_pos e, if_pos e]
        · rw [if_neg e, if_neg e, if_neg e]
      · rw [if_neg h, mget_cons, mget_cons, ih]
        by_cases e : k2 = k
        · rw [if_pos e, if_pos e, if_neg (fun e' => h (e'.trans e.symm))]
        · rw [if_neg e, if_neg e]

theorem mget_set_self {k v : String} {m : Meta} : mget (Meta.set k v m) k = some v := by
  rw [mget_set, if_pos rfl]

theorem mget_set_ne {k k' v : String} {m : Meta} (h : k ≠ k') : mget (Meta.set k' v m) k = mget m k := by
  rw [mget_set, if_neg (Ne.symm h)]

theorem mem_set {k v : String} {m : Meta} {p : String × String} (h : p ∈ Meta.set k v m) :
    p = (k, v) ∨ p ∈ m := by
  induction m with
  | nil => exact .inl (List.mem_singleton.mp h)
  | cons q rest ih =>
    rw [Meta.set] at h
    split at h
    · exact List.mem_cons.mp h
    · split at h
      · exact (List.mem_cons.mp h).imp_right (List.mem_cons_of_mem _)
      · rcases List.mem_cons.mp h with e | h
        · exact .inr (e ▸ List.mem_cons_self ..)
        · exact (ih h).imp_right (List.mem_cons_of_mem _)

theorem mget_merge_const {k v : String} {a b : Meta} (ha : mget a k = some v)
    (hb : ∀ p ∈ b, p.1 = k → p.2 = v) : mget (Meta.merge a b) k = some v :=
  List.foldlRecOn (motive := fun acc => mget acc k = some v) b _ ha fun acc h p hp => by
    rw [mget_set]
    split
    · rename_i e; rw [hb p hp e]
    · exact h

theorem kIdx_ne_ns : kTenantIdx ≠ kNamespace := by simp [kTenantIdx, kNamespace]
theorem kIdx_ne_id : kTenantIdx ≠ kTenantId := by simp [kTenantIdx, kTenantId]
theorem reserved_idx : reserved kTenantIdx = true := by simp [reserved]

theorem stamp_idx (t : Tn) (m : Meta) (ns : String) : mget (stamp t m ns) kTenantIdx = some t.idxStr := by
  unfold stamp
  simp only
  split
  · exact mget_set_self
  · rw [mget_set_ne kIdx_ne_ns]
    exact mget_set_self

theorem strip_no_reserved (m : Meta) (p : String × String) (h : p ∈ strip m) : reserved p.1 = false := by
  simp only [strip, List.mem_filter] at h
  simpa using h.2

theorem mem_carry {old : Meta} {k : String} {m : Meta} {p : String × String} (h : p ∈ carry old k m) :
    (p.1 = k ∧ mget old k = some p.2) ∨ p ∈ m := by
  unfold carry at h
  split at h
  · rename_i x hx
    rcases mem_set h with rfl | h
    · exact Or.inl ⟨rfl, hx⟩
    · exact Or.inr h
  · exact Or.inr h

theorem carried_idx_entries {old m : Meta} {p : String × String}
    (h : p ∈ carry old kNamespace (carry old kTenantIdx (carry old kTenantId (strip m))))
    (hk : p.1 = kTenantIdx) : mget old kTenantIdx = some p.2 := by
  rcases mem_carry h with ⟨h1, _⟩ | h
  · exact (kIdx_ne_ns (hk.symm.trans h1)).elim
  · rcases mem_carry h with ⟨_, h2⟩ | h
    · exact h2
    · rcases mem_carry h with ⟨h1, _⟩ | h
      · exact (kIdx_ne_id (hk.symm.trans h1)).elim
      · have := strip_no_reserved m p h
        rw [hk, reserved_idx] at this
        cases this

theorem carried_idx {old : Meta} (m : Meta) {x : String} (hx : mget old kTenantIdx = some x) :
    mget (carry old kNamespace (carry old kTenantIdx (carry old kTenantId (strip m)))) kTenantIdx = some x := by
  have h1 : mget (carry old kTenantIdx (carry old kTenantId (strip m))) kTenantIdx = some x := by
    unfold carry
    simp only [hx]
    exact mget_set_self
  unfold carry
  split
  · rw [mget_set_ne kIdx_ne_ns]; exact h1
  · exact h1

theorem update_keeps_idx (old m : Meta) (mg : Bool) (x : String) (hx : mget old kTenantIdx = some x) :
    mget (if mg then Meta.merge old (carry old kNamespace (carry old kTenantIdx (carry old kTenantId (strip m))))
          else carry old kNamespace (carry old kTenantIdx (carry old kTenantId (strip m)))) kTenantIdx = some x := by
  cases mg
  · exact carried_idx m hx
  · simp only [if_true]
    apply mget_merge_const hx
    intro p hp hk
    have := carried_idx_entries hp hk
    rw [hx] at this
    exact (Option.some.inj this).symm

theorem visible_iff {t : Tn} {ns : String} {m : Meta} :
    visible t ns m = true ↔ mget m kTenantIdx = some t.idxStr ∧ (ns = "" ∨ nsOf m = ns) := by
  simp [visible]

theorem visible_excl {a b : Tn} (hab : a.idxStr ≠ b.idxStr) {nsa nsb : String} {m : Meta}
    (h : visible b nsb m = true) : visible a nsa m = false :=
  Bool.eq_false_iff.mpr fun h' => hab (Option.some.inj ((visible_iff.mp h').1.symm.trans (visible_iff.mp h).1))

theorem get_strip (m : Meta) {k : String} (hk : reserved k = false) :
    MetaMap.get (strip m) k = MetaMap.get m k := by
  show mget (strip m) k = mget m k
  induction m with
  | nil => rfl
  | cons p rest ih =>
    unfold strip at ih ⊢
    rw [List.filter_cons, mget_cons]
    by_cases hr : reserved p.1 = true
    · rw [if_neg (by simp [hr]), ih, if_neg (fun e => by rw [e, hk] at hr; cases hr)]
    · rw [if_pos (by simpa using hr), mget_cons, ih]

section
variable (parse : String → Option Nat)

theorem allF_anyF_strip_of (m : Meta) : ∀ (fs : List Filter),
    (∀ f ∈ fs, mentionsReserved f = false → matchesF parse f (strip m) = matchesF parse f m) →
    anyMentions fs = false →
    allF parse fs (strip m) = allF parse fs m ∧ anyF parse fs (strip m) = anyF parse fs m
  | [], _, _ => ⟨rfl, rfl⟩
  | f :: fs, ih, h => by
    simp only [anyMentions, Bool.or_eq_false_iff] at h
    have hr := allF_anyF_strip_of m fs (fun g hg => ih g (List.mem_cons_of_mem _ hg)) h.2
    simp only [allF, anyF, ih f (List.mem_cons_self ..) h.1, hr.1, hr.2, and_self]

theorem matchesF_strip : ∀ (f : Filter) (m : Meta), mentionsReserved f = false →
    matchesF parse f (strip m) = matchesF parse f m := by
  intro f m
  induction f using Filter.induction with
  | none => intro _; simp [matchesF]
  | exact k v => intro h; simp only [mentionsReserved] at h; simp only [matchesF, get_strip m h]
  | range k b => intro h; simp only [mentionsReserved] at h; simp only [matchesF, matchesRange, get_strip m h]
  | inMatch k vs => intro h; simp only [mentionsReserved] at h; simp only [matchesF, get_strip m h]
  | and fs ih => intro h; simp only [mentionsReserved] at h; simp only [matchesF, (allF_anyF_strip_of parse m fs ih h).1]
  | or fs ih => intro h; simp only [mentionsReserved] at h; simp only [matchesF, (allF_anyF_strip_of parse m fs ih h).2]
  | not_none => intro _; simp [matchesF]
  | not_some f ih => intro h; simp only [mentionsReserved] at h; simp only [matchesF, ih h]

theorem anyF_strip : ∀ (fs : List Filter) (m : Meta), anyMentions fs = false →
    anyF parse fs (strip m) = anyF parse fs m :=
  fun fs m h => (allF_anyF_strip_of parse m fs (fun f _ => matchesF_strip parse f m) h).2
end

/-- the stored tenant index of `d` is `t`'s (the test `live` counts by) -/
def matchT (t : Tn) (d : Doc) : Bool := mget d.md kTenantIdx == some t.idxStr

/-- census of a document list.  `count s t` is the admission counter, `cnt t docs` counts the documents that carry
    `t`'s index, `live s t` is `cnt t s.docs`; the invariant says the first equals the last. -/
def cnt (t : Tn) (docs : List (Nat × Doc)) : Nat := (docs.filter fun p => matchT t p.2).length

theorem live_eq_cnt (s : S) (t : Tn) : live s t = cnt t s.docs := rfl

/-- global ids are unique (`AKeysNodup` of the document list) -/
def Keys (docs : List (Nat × Doc)) : Prop := (docs.map (·.1)).Nodup

theorem cnt_aset (t : Tn) (g : Nat) (d : Doc) (docs : List (Nat × Doc)) :
    cnt t (aset g d docs) = cnt t (aerase g docs) + if matchT t d then 1 else 0 := by
  unfold aset cnt
  rw [List.filter_cons]
  cases hm : matchT t d <;> simp <;> omega

theorem cnt_aerase (t : Tn) {g : Nat} {docs : List (Nat × Doc)} {d : Doc} (hk : Keys docs)
    (h : alookup g docs = some d) : cnt t docs = cnt t (aerase g docs) + if matchT t d then 1 else 0 := by
  rw [← cnt_aset]
  exact ((perm_cons_aerase hk h).filter _).length_eq

theorem count_setCount_self (s : S) (t : Tn) (n : Nat) : count (setCount s t n) t = n := by
  simp [count, setCount, aset]

theorem count_setCount_ne {s : S} {t t' : Tn} {n : Nat} (h : t'.idx ≠ t.idx) :
    count (setCount s t n) t' = count s t' := by
  unfold count setCount
  simp only
  rw [alookup_aset_ne h]

theorem count_setUsage (s : S) (t t' : Tn) (u : Usage) : count (setUsage s t u) t' = count s t' := rfl

theorem count_noteInserts (s : S) (t t' : Tn) (n : Nat) : count (noteInserts s t n) t' = count s t' := by
  unfold noteInserts; split <;> rfl

theorem count_noteDeletes (s : S) (t t' : Tn) (n : Nat) : count (noteDeletes s t n) t' = count s t' := by
  unfold noteDeletes; split <;> rfl

theorem count_decCount_self (s : S) (t : Tn) (n : Nat) : count (decCount s t n) t = count s t - n := by
  unfold decCount
  split
  · rename_i h; subst h; rfl
  · exact count_setCount_self _ _ _

theorem count_decCount_ne {s : S} {t t' : Tn} {n : Nat} (h : t'.idx ≠ t.idx) :
    count (decCount s t n) t' = count s t' := by
  unfold decCount
  split
  · rfl
  · exact count_setCount_ne h

theorem count_unreserve (s : S) (t t' : Tn) :
    count (decCount (setCount s t (count s t + 1)) t 1) t' = count s t' := by
  by_cases he : t'.idx = t.idx
  · have e1 : ∀ x : S, count x t' = count x t := fun x => by unfold count; rw [he]
    rw [e1, count_decCount_self, count_setCount_self, e1, Nat.add_sub_cancel]
  · rw [count_decCount_ne he, count_setCount_ne he]

theorem docs_setCount (s : S) (t : Tn) (n : Nat) : (setCount s t n).docs = s.docs := rfl
theorem docs_noteInserts (s : S) (t : Tn) (n : Nat) : (noteInserts s t n).docs = s.docs := by
  unfold noteInserts; split <;> rfl
theorem docs_noteDeletes (s : S) (t : Tn) (n : Nat) : (noteDeletes s t n).docs = s.docs := by
  unfold noteDeletes; split <;> rfl
theorem docs_decCount (s : S) (t : Tn) (n : Nat) : (decCount s t n).docs = s.docs := by
  unfold decCount; split <;> rfl

theorem dim_noteInserts (s : S) (t : Tn) (n : Nat) : (noteInserts s t n).dim = s.dim := by
  unfold noteInserts; split <;> rfl
theorem dim_noteDeletes (s : S) (t : Tn) (n : Nat) : (noteDeletes s t n).dim = s.dim := by
  unfold noteDeletes; split <;> rfl
theorem dim_decCount (s : S) (t : Tn) (n : Nat) : (decCount s t n).dim = s.dim := by
  unfold decCount; split <;> rfl

/-- the branch combinator: what holds of the state after either branch holds after the `if` -/
theorem fst_ite {ρ : Type} {P : S → Prop} {c : Prop} [Decidable c] {x y : S × ρ}
    (hx : c → P x.1) (hy : ¬ c → P y.1) : P (if c then x else y).1 := by
  split
  · exact hx ‹_›
  · exact hy ‹_›

/-- the five outcomes: overwrite, overwrite refused by the engine, quota refusal, fresh insert, fresh insert
    refused by the engine (reservation undone) -/
theorem insertCore_eq (s : S) (t : Tn) (g : Nat) (v : List Nat) (m : Meta) (ns : String) :
    insertCore s t g v m ns =
      if (alookup g s.docs).isSome then
        if v.length = s.dim then ({ s with docs := aset g ⟨v, stamp t m ns⟩ s.docs }, .ok ())
        else (s, .error .internal)
      else if t.maxv ≤ count s t then (s, .error .resourceExhausted)
      else if v.length = s.dim then
        (noteInserts { setCount s t (count s t + 1) with docs := aset g ⟨v, stamp t m ns⟩ s.docs } t 1, .ok ())
      else (decCount (setCount s t (count s t + 1)) t 1, .error .internal) := by
  unfold insertCore engineInsert
  by_cases hv : v.length = s.dim <;> simp [hv, setCount]

/-- `delete` / `updateMeta` once the request is valid and addressed to the global id `g`: the tenant / namespace check
    on the stored document, then the effect `X` -/
def atDoc (s : S) (t : Tn) (g : Nat) (ns : String) (X : Doc → S) : S × Except Err Bool :=
  match alookup g s.docs with
  | none => (s, .ok false)
  | some d => if !visible t ns d.md then (s, .ok false) else (X d, .ok true)

theorem atDoc_fst {P : S → Prop} {s : S} {t : Tn} {g : Nat} {ns : String} {X : Doc → S} (hs : P s)
    (hX : ∀ d, alookup g s.docs = some d → visible t ns d.md = true → P (X d)) : P (atDoc s t g ns X).1 := by
  unfold atDoc
  cases hd : alookup g s.docs with
  | none => exact hs
  | some d => exact fst_ite (fun _ => hs) fun hv => hX d hd (by simpa using hv)

/-! Validation and addressing read no state: an id-addressed request is either refused on every state,
or acts on one global id in the caller's range on every state. -/

/-- the shape shared by `insert`, `delete`, `updateMeta`; at a use, `c` is found by unifying with the model's
    `if`, whose condition is a `Bool` coerced to `Prop` -/
theorem addressed_eq {ρ : Type} (t : Tn) (lid : Nat) {c : Prop} [Decidable c] {K : Nat → S → S × Except Err ρ} :
    (∀ s, (if c then (s, .error .invalidArgument) else
        match gid t lid with | none => (s, .error .invalidArgument) | some g => K g s) = (s, .error .invalidArgument)) ∨
      ∃ g, g / limit32 = t.idx ∧ ∀ s, (if c then (s, .error .invalidArgument) else
        match gid t lid with | none => (s, .error .invalidArgument) | some g => K g s) = K g s := by
  by_cases hc : c
  · exact .inl fun s => if_pos hc
  · cases h : gid t lid with
    | none => exact .inl fun s => if_neg hc
    | some g => exact .inr ⟨g, gid_div h, fun s => if_neg hc⟩

theorem insert_eq (t : Tn) (lid : Nat) (v : List Nat) (m : Meta) (ns : String) :
    (∀ s, insert s t lid v m ns = (s, .error .invalidArgument)) ∨
      ∃ g, g / limit32 = t.idx ∧ ∀ s, insert s t lid v m ns = insertCore s t g v m ns :=
  addressed_eq t lid

theorem delete_eq (t : Tn) (lid : Nat) (ns : String) :
    (∀ s, delete s t lid ns = (s, .error .invalidArgument)) ∨
      ∃ g, g / limit32 = t.idx ∧ ∀ s, delete s t lid ns =
        atDoc s t g ns fun _ => noteDeletes (decCount { s with docs := aerase g s.docs } t 1) t 1 :=
  addressed_eq t lid

theorem updateMeta_eq (t : Tn) (lid : Nat) (m : Meta) (mg : Bool) (ns : String) :
    (∀ s, updateMeta s t lid m mg ns = (s, .error .invalidArgument)) ∨
      ∃ g, g / limit32 = t.idx ∧ ∀ s, updateMeta s t lid m mg ns = atDoc s t g ns fun d =>
        { s with docs := aset g ⟨d.vec, if mg
          then Meta.merge d.md (carry d.md kNamespace (carry d.md kTenantIdx (carry d.md kTenantId (strip m))))
          else carry d.md kNamespace (carry d.md kTenantIdx (carry d.md kTenantId (strip m)))⟩ s.docs } :=
  addressed_eq t lid

theorem bulkInsert_fst (t : Tn) (items : List Item) (s : S) :
    (bulkInsert s t items).1 = items.foldl (fun s it => (insert s t it.lid it.vec it.md it.ns).1) s := by
  induction items generalizing s with
  | nil => rfl
  | cons it rest ih =>
    rw [List.foldl_cons, ← ih, bulkInsert]
    dsimp only
    split <;> rfl

theorem visible_matches {t : Tn} {ns : String} {d : Doc} (h : visible t ns d.md = true) : matchT t d = true :=
  beq_iff_eq.mpr (visible_iff.mp h).1

/-- erasing an absent id changes nothing, so the presence test can be dropped -/
theorem deleteMany_fst (gs : List Nat) (s : S) :
    (deleteMany s gs).1 = gs.foldl (fun s g => { s with docs := aerase g s.docs }) s := by
  induction gs generalizing s with
  | nil => rfl
  | cons g rest ih =>
    rw [List.foldl_cons, ← ih, deleteMany]
    split
    · rfl
    · rename_i hs
      rw [aerase_of_not_mem (not_mem_of_alookup_none (by simpa using hs))]

theorem deleteMany_lookup (gs : List Nat) : ∀ (s : S) (g' : Nat),
    alookup g' (deleteMany s gs).1.docs = if g' ∈ gs then none else alookup g' s.docs := by
  induction gs with
  | nil => intro s g'; simp [deleteMany]
  | cons g rest ih =>
    intro s g'
    rw [deleteMany_fst, List.foldl_cons, ← deleteMany_fst, ih, alookup_aerase]
    by_cases e : g' = g <;> simp [e]

theorem deleteMany_frame (gs : List Nat) (s : S) :
    (deleteMany s gs).1.dim = s.dim ∧ (deleteMany s gs).1.counts = s.counts := by
  rw [deleteMany_fst]
  exact List.foldlRecOn (motive := fun r : S => r.dim = s.dim ∧ r.counts = s.counts) gs _ ⟨rfl, rfl⟩ fun _ h _ _ => h

/-- the admission counter after the fold; the number `deleteMany` returns is `deleteMany_count` -/
theorem count_deleteMany (gs : List Nat) (s : S) (t : Tn) : count (deleteMany s gs).1 t = count s t := by
  unfold count; rw [(deleteMany_frame gs s).2]

theorem deleteMany_count (gs : List Nat) (hn : gs.Nodup) : ∀ (s : S),
    (deleteMany s gs).2 = (gs.filter fun g => (alookup g s.docs).isSome).length := by
  induction gs with
  | nil => intro s; rfl
  | cons g rest ih =>
    intro s
    obtain ⟨hg, hn⟩ := List.nodup_cons.mp hn
    rw [deleteMany, List.filter_cons]
    split
    · -- `g` is not in `rest`, so erasing it changes no later presence test
      have hc : (rest.filter fun x => (alookup x (aerase g s.docs)).isSome) =
          rest.filter fun x => (alookup x s.docs).isSome :=
        List.filter_congr fun x hx => by rw [alookup_aerase_ne (ne_of_mem_of_not_mem hx hg)]
      rw [List.length_cons, ← hc]
      exact congrArg (· + 1) (ih hn { s with docs := aerase g s.docs })
    · exact ih hn s

/-- the global ids a `BatchDelete` by filter hands to `deleteMany` -/
def selected (parse : String → Option Nat) (s : S) (t : Tn) (f : Filter) (ns : String) : List Nat :=
  (s.docs.filter fun p => visible t ns p.2.md && matchesF parse f p.2.md).map (·.1)

theorem mem_selected (parse : String → Option Nat) {s : S} (hk : Keys s.docs) (t : Tn) (f : Filter) (ns : String)
    (g : Nat) : g ∈ selected parse s t f ns ↔
      ∃ d, alookup g s.docs = some d ∧ visible t ns d.md = true ∧ matchesF parse f d.md = true := by
  unfold selected
  simp only [List.mem_map, List.mem_filter, Bool.and_eq_true]
  constructor
  · rintro ⟨p, ⟨hp, hP⟩, rfl⟩
    exact ⟨p.2, (alookup_iff_mem hk p.1 p.2).mpr hp, hP⟩
  · rintro ⟨d, hd, hP⟩
    exact ⟨(g, d), ⟨(alookup_iff_mem hk g d).mp hd, hP⟩, rfl⟩

theorem nodup_selected (parse : String → Option Nat) {s : S} (hk : Keys s.docs) (t : Tn) (f : Filter) (ns : String) :
    (selected parse s t f ns).Nodup := by
  unfold selected
  exact List.Nodup.sublist (List.Sublist.map _ List.filter_sublist) hk

theorem deleteMany_selected (parse : String → Option Nat) {s : S} (hk : Keys s.docs) (t : Tn) (f : Filter) (ns : String) :
    (deleteMany s (selected parse s t f ns)).2 = (selected parse s t f ns).length := by
  rw [deleteMany_count _ (nodup_selected parse hk t f ns), List.filter_eq_self.mpr fun g hg => ?_]
  obtain ⟨d, hd, _⟩ := (mem_selected parse hk t f ns g).mp hg
  rw [hd]; rfl

theorem batchDeleteFilter_eq (parse : String → Option Nat) (s : S) (t : Tn) (f : Filter) (ns : String) :
    batchDeleteFilter parse s t f ns =
      if mentionsReserved f then (s, .error .invalidArgument) else
      (noteDeletes (decCount (deleteMany s (selected parse s t f ns)).1 t (deleteMany s (selected parse s t f ns)).2) t
          (deleteMany s (selected parse s t f ns)).2,
        .ok (deleteMany s (selected parse s t f ns)).2) := rfl

theorem readDoc_eq_some {s : S} {t : Tn} {lid : Nat} {ns : String} {r : List Nat × Meta} :
    readDoc s t lid ns = some r ↔
      ∃ g d, gid t lid = some g ∧ alookup g s.docs = some d ∧ visible t ns d.md = true ∧ r = (d.vec, strip d.md) := by
  unfold readDoc
  constructor
  · intro h
    split at h
    · cases h
    · rename_i g hg
      split at h
      · cases h
      · rename_i d hd
        split at h
        · exact ⟨g, d, hg, hd, ‹_›, (Option.some.inj h).symm⟩
        · cases h
  · rintro ⟨g, d, hg, hd, hv, rfl⟩
    simp only [hg, hd, hv, if_true]

theorem passes_eq_some {parse : String → Option Nat} {s : S} {t : Tn} {ns : String} {f : Option Filter} {g : Nat}
    {r : Nat × Meta} : passes parse s t ns f g = some r ↔
      ∃ d, ownsGid t g = true ∧ alookup g s.docs = some d ∧ visible t ns d.md = true ∧
        filterOk parse f d.md = true ∧ 1 ≤ localOf g ∧ r = (localOf g, strip d.md) := by
  unfold passes
  cases alookup g s.docs with
  | none => simp
  | some d => simp [@eq_comm _ r]; omega

/-! ### BulkLoadHnsw on an abstract batch

`bulkLoad` = validation (which fixes the batch and depends on no state) followed by `loadBatch`.  All
that is ever needed of the batch is that it is addressed in the caller's id range and stamped with the
caller's index, so the lemmas about `loadBatch` keep it a variable. -/

theorem loadAll_fst (B : List (Nat × List Nat × Meta)) (s : S) :
    (loadAll s B).1 = B.foldl (fun s b => (engineInsert s b.1 b.2.1 b.2.2).1) s := by
  induction B generalizing s with
  | nil => rfl
  | cons b rest ih =>
    obtain ⟨g, v, m⟩ := b
    rw [List.foldl_cons, ← ih, loadAll]
    split <;> rename_i h <;> rw [h]

def newIdsOf (s : S) (B : List (Nat × List Nat × Meta)) : List Nat :=
  dedupNat ((B.map (·.1)).filter fun g => !(alookup g s.docs).isSome)

/-- after the reservation: load, release the unused part of the reservation, note the inserts -/
def loadReserved (s1 : S) (t : Tn) (B : List (Nat × List Nat × Meta)) (newIds : List Nat) (invalid : Nat) :
    S × Except Err (Nat × Nat) :=
  let r := loadAll s1 B
  let now := (newIds.filter fun g => (alookup g r.1.docs).isSome).length
  (noteInserts (decCount r.1 t (newIds.length - now)) t now, .ok (r.2.1, r.2.2 + invalid))

/-- the reservation: one slot per new id, taken before the load -/
def reserve (s : S) (t : Tn) (newIds : List Nat) : S :=
  if newIds.isEmpty then s else setCount s t (count s t + newIds.length)

theorem docs_reserve (s : S) (t : Tn) (N : List Nat) : (reserve s t N).docs = s.docs := by
  unfold reserve; split <;> rfl
theorem dim_reserve (s : S) (t : Tn) (N : List Nat) : (reserve s t N).dim = s.dim := by
  unfold reserve; split <;> rfl
theorem count_reserve_self (s : S) (t : Tn) (N : List Nat) : count (reserve s t N) t = count s t + N.length := by
  unfold reserve
  split
  · rename_i he; rw [List.isEmpty_iff.mp he]; rfl
  · exact count_setCount_self _ _ _
theorem count_reserve_ne {s : S} {t t' : Tn} {N : List Nat} (h : t'.idx ≠ t.idx) :
    count (reserve s t N) t' = count s t' := by
  unfold reserve
  split
  · rfl
  · exact count_setCount_ne h

/-- `bulkLoad` after validation, on the batch `B` it has fixed (`bulkLoad_eq`) -/
def loadBatch (s : S) (t : Tn) (B : List (Nat × List Nat × Meta)) (invalid : Nat) : S × Except Err (Nat × Nat) :=
  if B.isEmpty then (s, .ok (0, invalid)) else
  if t.maxv < count s t + (newIdsOf s B).length then (s, .error .resourceExhausted) else
  loadReserved (reserve s t (newIdsOf s B)) t B (newIdsOf s B) invalid

theorem bulkLoad_eq (t : Tn) (items : List Item) :
    ∃ B n, (∀ b ∈ B, b.1 / limit32 = t.idx ∧ matchT t ⟨b.2.1, b.2.2⟩ = true) ∧
      ∀ s, bulkLoad s t items = loadBatch s t B n := by
  refine ⟨_, _, ?_, fun s => rfl⟩
  intro b hb
  obtain ⟨it, hit, rfl⟩ := List.mem_map.mp hb
  simp only [List.mem_filter, Bool.and_eq_true] at hit
  obtain ⟨g, hg⟩ := Option.isSome_iff_exists.mp hit.2.2
  refine ⟨?_, by simp [matchT, stamp_idx]⟩
  simp only [hg, Option.getD_some]
  exact gid_div hg

end KyroModel.Srv
