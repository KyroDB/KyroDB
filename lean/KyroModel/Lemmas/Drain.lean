/-
The drain (`flush_hot_tier` / emergency flush) described once: what the reconciliation fold, hence
the drain, does to the configuration, the document cache, the size of the mirror and — when every
mirrored id is canonical — to the canonical store.
-/
import KyroModel.Base.Fold
import KyroModel.Lemmas.Footprint

namespace KyroModel
section
variable {D : Type} [DecidableEq D] (digest : Vec → D)

/-- `reconcile`'s accumulator: state, failed documents, success count, clear-the-query-cache flag -/
abbrev RAcc (D : Type) := TState D × List (Nat × HotDoc D) × Nat × Bool

/-- `r` is what reconciling `n` of the drained documents `docs` into `s` gives: each went to the
    success count or onto the failed list; where every drained id is canonical nothing is written
    and nothing fails. -/
structure Reconciled (s : TState D) (docs : List (Nat × HotDoc D)) (n : Nat) (r : RAcc D) : Prop where
  cfg : r.1.cfg = s.cfg
  l1a : L1Api s.l1a r.1.l1a
  count : r.2.1.length + r.2.2.1 = n
  canon : (∀ p ∈ docs, p.1 ∈ akeys s.cold) → r.1.cold = s.cold ∧ r.2.1 = []

theorem reconcile_spec (s : TState D) (docs : List (Nat × HotDoc D)) :
    Reconciled s docs docs.length (reconcile digest s docs) :=
  foldl_indexed (Reconciled s docs) _ docs _ ⟨rfl, .refl _, rfl, fun _ => ⟨rfl, rfl⟩⟩
    fun n acc p hp h => by
      obtain ⟨st, failed, ok, clr⟩ := acc
      obtain ⟨id, d⟩ := p
      have hc : failed.length + ok = n := h.count
      simp only
      split
      · split
        · exact ⟨h.cfg, h.l1a.trans (.invalidate _ _), congrArg (· + 1) hc, h.canon⟩
        · exact ⟨h.cfg, h.l1a, congrArg (· + 1) hc, h.canon⟩
      · next hl =>
        -- not canonical: cannot be where every drained id is
        have hno (hd : ∀ p ∈ docs, p.1 ∈ akeys s.cold) : False :=
          not_mem_of_alookup_none hl ((h.canon hd).1 ▸ hd _ (List.mem_of_getElem? hp))
        split
        · exact ⟨h.cfg, h.l1a, congrArg (· + 1) hc, fun hd => (hno hd).elim⟩
        · exact ⟨h.cfg, h.l1a, by rw [List.length_append, ← hc]; exact Nat.add_right_comm ..,
            fun hd => (hno hd).elim⟩

theorem drainNonEmpty_eq (s : TState D) {r : RAcc D}
    (hr : reconcile digest { s with hot := [] } s.hot = r) :
    ∃ q, drainNonEmpty digest s =
      ({ r.1 with hot := r.2.1, qcClears := q },
       if r.2.1.length ≠ 0 ∧ r.2.2.1 = 0 then none else some r.2.2.1) := by
  unfold drainNonEmpty
  rw [hr]
  obtain ⟨s1, failed, ok, clr⟩ := r
  simp only
  split
  · exact ⟨_, rfl⟩
  · split <;> exact ⟨_, rfl⟩

/-- **The drain** is quiet; when it reports success on a non-empty mirror it frees a slot; and if
    every mirrored id is canonical it writes nothing, empties the mirror and succeeds. -/
structure Drained (s : TState D) (r : TState D × Option Nat) : Prop where
  quiet : Quiet s r.1
  frees : r.2.isSome → s.hot.length ≠ 0 → r.1.hot.length + 1 ≤ s.hot.length
  cold : HotSubCold s → r.1.cold = s.cold
  empties : HotSubCold s → r.1.hot = []
  ok : HotSubCold s → r.2.isSome

theorem drain_spec (s : TState D) : Drained s (drain digest s) := by
  unfold drain
  split
  · next h0 =>
    exact ⟨(Scrub.refl s).quiet, fun _ hne => absurd h0 hne, fun _ => rfl,
      fun _ => List.eq_nil_of_length_eq_zero h0, fun _ => rfl⟩
  · have hr := reconcile_spec digest { s with hot := [] } s.hot
    obtain ⟨q, he⟩ := drainNonEmpty_eq digest s rfl
    rw [he]
    generalize reconcile digest _ s.hot = r at hr
    have hcount : r.2.1.length + r.2.2.1 = s.hot.length := hr.count
    have hcan (hs : HotSubCold s) := hr.canon fun p hp => hs p.1 (List.mem_map_of_mem hp)
    refine ⟨⟨hr.cfg, Nat.le.intro hcount, hr.l1a⟩, fun hsome _ => ?_, fun hs => (hcan hs).1,
      fun hs => (hcan hs).2, fun hs => by simp [(hcan hs).2]⟩
    show r.2.1.length + 1 ≤ _
    split at hsome
    · cases hsome
    · -- `s.hot.length ≠ 0` is the enclosing `split`'s hypothesis; with `hcount`, "not (something
      -- failed and nothing succeeded)" leaves at least one success
      omega

end
end KyroModel
