/-
The pruning bounds of `invalidate_for_insert` (query_hash_cache.rs `dot_upper_bound_from_prefix`,
`l2_prefix_sq`) over the reals: for EVERY dimension `n`, every prefix length `p` and every pair of
vectors, the dot product is at most the prefix dot product plus the product of the tail norms,
and the squared distance over the prefix is at most the full squared distance.  Hence "the
pre-filter says the insert cannot reach the boundary" implies "the exact test keeps the entry"
in exact arithmetic.  (Float rounding inside the pre-filter is exercised near the boundary by the
correspondence run, not proved.)  Mathlib: `Real.sum_mul_le_sqrt_mul_sqrt`.
-/
import Mathlib.Analysis.Real.Sqrt

namespace KyroModel.PrefixBound
open Finset

/-- **Inner-product / cosine pre-filter**: ⟨q,v⟩ ≤ ⟨q,v⟩_prefix + ‖q_tail‖·‖v_tail‖ -/
theorem dot_le_prefix_add_tail {n : ℕ} (p : ℕ) (q v : Fin n → ℝ) :
    ∑ i, q i * v i ≤
      (∑ i ∈ univ.filter (fun i : Fin n => (i : ℕ) < p), q i * v i) +
        √(∑ i ∈ univ.filter (fun i : Fin n => ¬ (i : ℕ) < p), q i ^ 2) *
        √(∑ i ∈ univ.filter (fun i : Fin n => ¬ (i : ℕ) < p), v i ^ 2) := by
  rw [← Finset.sum_filter_add_sum_filter_not (univ : Finset (Fin n)) (fun i : Fin n => (i : ℕ) < p)
    (fun i => q i * v i)]
  exact add_le_add (le_refl _) (Real.sum_mul_le_sqrt_mul_sqrt _ q v)

/-- **Euclidean pre-filter**: the squared distance over the prefix never exceeds the full one -/
theorem l2_prefix_le_full {n : ℕ} (p : ℕ) (q v : Fin n → ℝ) :
    ∑ i ∈ univ.filter (fun i : Fin n => (i : ℕ) < p), (q i - v i) ^ 2 ≤ ∑ i, (q i - v i) ^ 2 :=
  Finset.sum_le_sum_of_subset_of_nonneg (Finset.filter_subset _ _) fun i _ _ => sq_nonneg _

end KyroModel.PrefixBound
