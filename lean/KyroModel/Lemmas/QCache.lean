/-
The query-result cache model, operation by operation.  `get_spec` and `store_spec` give the state
after a `get` / `store` in closed form: unchanged, or the entry of one key taken out and one entry
of that key appended (a hit, `touch`), or — `store` of an absent key — the oldest entry dropped if
the cache is full and the written entry appended.  From these: only the three invalidating
operations change the generation, each by one; every operation keeps `Inv` (unique keys, at most
`max cap 1` entries) and the capacity.
-/
import KyroModel.Tiered.QueryCache
import KyroModel.Lemmas.Lru

namespace KyroModel

/-- the operations that advance the generation (what a write triggers) -/
def QOp.invalidates : QOp → Bool
  | .invalidateDoc _ | .invalidateForInsert _ | .clear => true
  | _ => false

namespace QCache

/-- the cache keys `(scope, quantised query)` in LRU order -/
def keys (es : List QEntry) : List QKey := es.map (·.key)

/-- unique keys, at most `max cap 1` entries (`cap = 0` behaves as `cap = 1`, as in `VCache.Inv`) -/
def Inv (c : QCache) : Prop := (keys c.entries).Nodup ∧ c.entries.length ≤ max c.cap 1

theorem Inv.lru {c : QCache} (h : c.Inv) : LruInv (·.key) c.cap c.entries := h

theorem inv_init (cap : Nat) : (init cap).Inv := LruInv.nil

theorem length_without_le (es : List QEntry) (k : QKey) : (without es k).length ≤ es.length :=
  List.length_filter_le _ _

theorem find?_mem {c : QCache} {k : QKey} {e : QEntry} (h : c.find? k = some e) :
    e ∈ c.entries ∧ e.key = k :=
  ⟨List.mem_of_find?_eq_some h, by simpa using List.find?_some h⟩

theorem find?_none_not_mem {c : QCache} {k : QKey} (h : c.find? k = none) :
    k ∉ keys c.entries := fun hm =>
  have ⟨e, he, hk⟩ := List.mem_map.mp hm
  List.find?_eq_none.mp h e he (beq_iff_eq.mpr hk)

theorem mem_touch {c : QCache} {k : QKey} {x : QEntry} (h : x ∈ (c.touch k).entries) :
    x ∈ c.entries := by
  unfold touch at h
  split at h
  · rename_i e hf
    rcases List.mem_append.mp h with h | h
    · exact (List.mem_filter.mp h).1
    · rw [List.mem_singleton.mp h]; exact (find?_mem hf).1
  · exact h

@[simp] theorem gen_touch (c : QCache) (k : QKey) : (c.touch k).gen = c.gen := by
  unfold touch; split <;> rfl

@[simp] theorem cap_touch {c : QCache} {k : QKey} : (c.touch k).cap = c.cap := by
  unfold touch; split <;> rfl

theorem inv_readd {c : QCache} {k : QKey} {old e : QEntry} (hk : e.key = k)
    (hf : c.find? k = some old) (h : c.Inv) :
    ({ c with entries := without c.entries k ++ [e] } : QCache).Inv :=
  have ⟨hm, hok⟩ := find?_mem hf
  h.lru.readd (hok ▸ List.mem_map_of_mem hm) (fun _ hx => by simpa using hx) hk

theorem inv_touch {c : QCache} {k : QKey} (h : c.Inv) : (c.touch k).Inv := by
  unfold touch
  split
  · rename_i e hf
    exact inv_readd (find?_mem hf).2 hf h
  · exact h

theorem get_spec (c : QCache) (k : QKey) (want : Nat) (order : List (List Nat)) :
    c.get k want order = (c, none) ∨
    ∃ e ∈ c.entries, e.key.1 = k.1 ∧ want ≤ e.reqK ∧
      c.get k want order = (c.touch e.key, some (e.res.take want)) := by
  unfold get
  cases hf : c.find? k with
  | some e =>
    obtain ⟨hm, hk⟩ := find?_mem hf
    subst hk
    by_cases hw : e.reqK ≥ want
    · exact .inr ⟨e, hm, rfl, hw, if_pos hw⟩
    · exact .inl (if_neg hw)
  | none =>
    dsimp only
    generalize hel : List.filterMap _ order = el
    cases el with
    | nil => exact .inl rfl
    | cons e _ =>
      -- the head of `eligible` was found in `c.entries` by the scan's predicate
      obtain ⟨_, _, hqv⟩ := List.mem_filterMap.mp (hel ▸ List.mem_cons_self)
      have hp := List.find?_some hqv
      simp only [Bool.and_eq_true, beq_iff_eq, decide_eq_true_eq] at hp
      exact .inr ⟨e, List.mem_of_find?_eq_some hqv, hp.1.1.1, hp.2, rfl⟩

@[simp] theorem gen_get {c : QCache} {k : QKey} {w : Nat} {o : List (List Nat)} :
    (c.get k w o).1.gen = c.gen := by
  rcases get_spec c k w o with h | ⟨_, _, _, _, h⟩ <;> simp [h]

theorem inv_get {c : QCache} (k : QKey) (w : Nat) (o : List (List Nat)) (h : c.Inv) :
    (c.get k w o).1.Inv ∧ (c.get k w o).1.cap = c.cap := by
  rcases get_spec c k w o with hg | ⟨e, _, _, _, hg⟩ <;> rw [hg]
  · exact ⟨h, rfl⟩
  · exact ⟨inv_touch h, cap_touch⟩

theorem store_spec (c : QCache) (k : QKey) (q : List Nat) (r : Nat) (res : List (Nat × Nat))
    (g : Option Nat) :
    (c.store k q r res g).1 = c ∨
    (∃ old e, c.find? k = some old ∧ e.key = k ∧
      (c.store k q r res g).1 = { c with entries := without c.entries k ++ [e] }) ∨
    (c.find? k = none ∧ (c.store k q r res g).1 = { c with entries :=
      (if c.entries.length ≥ c.cap then c.entries.tail else c.entries) ++
        [⟨k, q, max r res.length, res⟩] }) := by
  unfold store
  dsimp only
  by_cases hg : (g.isSome && g != some c.gen) = true
  · exact .inl (congrArg Prod.fst (if_pos hg))
  · refine .inr ?_
    rw [if_neg hg]
    cases hf : c.find? k with
    | none => exact .inr ⟨rfl, rfl⟩
    | some old =>
      refine .inl ⟨old, ?_⟩
      by_cases hr : max r res.length ≥ old.reqK
      · exact ⟨_, rfl, rfl, congrArg Prod.fst (if_pos hr)⟩
      · exact ⟨old, rfl, (find?_mem hf).2, congrArg Prod.fst (if_neg hr)⟩

@[simp] theorem gen_store {c : QCache} {k : QKey} {q : List Nat} {r : Nat} {res : List (Nat × Nat)}
    {g : Option Nat} : (c.store k q r res g).1.gen = c.gen := by
  rcases store_spec c k q r res g with h | ⟨_, _, _, _, h⟩ | ⟨_, h⟩ <;> rw [h]

theorem inv_store (c : QCache) (k : QKey) (q : List Nat) (r : Nat) (res : List (Nat × Nat))
    (g : Option Nat) (h : c.Inv) :
    (c.store k q r res g).1.Inv ∧ (c.store k q r res g).1.cap = c.cap := by
  rcases store_spec c k q r res g with hs | ⟨old, e, hf, hk, hs⟩ | ⟨hf, hs⟩ <;> rw [hs]
  · exact ⟨h, rfl⟩
  · exact ⟨inv_readd hk hf h, rfl⟩
  · exact ⟨h.lru.add (find?_none_not_mem hf), rfl⟩

theorem gen_applyOp (c : QCache) (op : QOp) :
    (c.applyOp op).gen = c.gen + if op.invalidates then 1 else 0 := by
  cases op with
  | store k q r res g => exact gen_store
  | get k w o => exact gen_get
  | _ => rfl

theorem gen_applyOps (c : QCache) (ops : List QOp) :
    (c.applyOps ops).gen = c.gen + ops.countP QOp.invalidates := by
  induction ops generalizing c with
  | nil => rfl
  | cons op rest ih =>
    show ((c.applyOp op).applyOps rest).gen = _
    rw [ih, gen_applyOp, List.countP_cons, Nat.add_assoc, Nat.add_comm (List.countP _ _)]

theorem inv_applyOp {c : QCache} (op : QOp) (h : c.Inv) :
    (c.applyOp op).Inv ∧ (c.applyOp op).cap = c.cap := by
  cases op with
  | store k q r res g => exact inv_store c k q r res g h
  | get k w o => exact inv_get k w o h
  | invalidateDoc d => exact ⟨h.lru.filter _, rfl⟩
  | invalidateForInsert hit => exact ⟨h.lru.filter _, rfl⟩
  | clear => exact ⟨LruInv.nil, rfl⟩

theorem inv_applyOps {c : QCache} (ops : List QOp) (h : c.Inv) :
    (c.applyOps ops).Inv ∧ (c.applyOps ops).cap = c.cap :=
  List.foldlRecOn (motive := fun c' : QCache => c'.Inv ∧ c'.cap = c.cap) ops applyOp ⟨h, rfl⟩
    fun _ h' op _ => have h1 := inv_applyOp op h'.1; ⟨h1.1, h1.2.trans h'.2⟩

end QCache
end KyroModel
