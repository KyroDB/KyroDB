/-
The conservation law of a token bucket (`Bucket.Rel`: tokens consumed plus tokens left never
exceed tokens at the start plus rate × elapsed time) and the bound it gives (`Rel.bound`); the
runs the C19 statements speak of (`C19.tenantCall`, `consumeAll`, `Monotone`, `tenantCalls`) with
their conservation lemmas; and `checkLimit_tenant`: what `check_limit` does to the caller's
bucket is `tenantCall`.
-/
import KyroModel.Server.RateLimit
import KyroModel.Base.Assoc

namespace KyroModel
namespace Bucket

/-- what every run from `b` to `b'` that admits `n` requests satisfies — an over-approximation of
    reachability: `cap` and `rate` unchanged, the clock not set back, `b'` capped, and conservation
    (`n` tokens spent + tokens left ≤ tokens at the start + rate × elapsed time) -/
structure Rel (G : Nat) (b b' : Bucket) (n : Nat) : Prop where
  cap : b'.cap = b.cap
  rate : b'.rate = b.rate
  time : b.last ≤ b'.last
  conserve : n * G + b'.tokens ≤ b.tokens + (b'.last - b.last) * b.rate
  capped : b'.tokens ≤ b'.cap * G

theorem Rel.refl (G : Nat) (b : Bucket) (h : b.tokens ≤ b.cap * G) : Rel G b b 0 :=
  ⟨rfl, rfl, Nat.le_refl _, by simp, h⟩

/-- conservation over two adjacent intervals adds up (no `omega`: the truncated differences and
    the products make it slow here) -/
theorem conserve_add {G r n m ta tb tc la lb lc : Nat} (h1 : la ≤ lb) (h2 : lb ≤ lc)
    (e1 : n * G + tb ≤ ta + (lb - la) * r) (e2 : m * G + tc ≤ tb + (lc - lb) * r) :
    (n + m) * G + tc ≤ ta + (lc - la) * r :=
  calc (n + m) * G + tc = n * G + (m * G + tc) := by rw [Nat.add_mul, Nat.add_assoc]
    _ ≤ n * G + (tb + (lc - lb) * r) := Nat.add_le_add_left e2 _
    _ = (n * G + tb) + (lc - lb) * r := (Nat.add_assoc ..).symm
    _ ≤ ta + (lb - la) * r + (lc - lb) * r := Nat.add_le_add_right e1 _
    _ = ta + (lc - la) * r := by
      rw [Nat.add_assoc, ← Nat.add_mul, Nat.add_comm (lb - la), Nat.sub_add_sub_cancel h2 h1]

theorem Rel.trans {G : Nat} {a b c : Bucket} {n m : Nat} (h1 : Rel G a b n) (h2 : Rel G b c m) :
    Rel G a c (n + m) :=
  ⟨h2.cap.trans h1.cap, h2.rate.trans h1.rate, Nat.le_trans h1.time h2.time,
   conserve_add h1.time h2.time h1.conserve (h1.rate ▸ h2.conserve), h2.capped⟩

/-- the bound the conservation law gives from a capped start: `admitted ≤ burst + rate × elapsed` -/
theorem Rel.bound {G : Nat} {b b' : Bucket} {n : Nat} (h : Rel G b b' n) (hc : b.tokens ≤ b.cap * G) :
    n * G ≤ b.cap * G + (b'.last - b.last) * b.rate :=
  Nat.le_trans (Nat.le_add_right _ _) (Nat.le_trans h.conserve (Nat.add_le_add_right hc _))

theorem rel_refill {G : Nat} {b : Bucket} (now : Nat) (h : b.tokens ≤ b.cap * G) : Rel G b (b.refill G now) 0 := by
  unfold refill
  split
  · exact ⟨rfl, rfl, Nat.le_of_lt ‹_›, by simp only [Nat.zero_mul, Nat.zero_add]; exact Nat.min_le_right _ _,
      Nat.min_le_left _ _⟩
  · exact Rel.refl G b h

theorem refill_last (G : Nat) {b : Bucket} {now : Nat} (hnow : b.last ≤ now) :
    (b.refill G now).last = now := by
  unfold refill; split
  · rfl
  · omega

theorem refill_idem (G : Nat) (b : Bucket) (now : Nat) : (b.refill G now).refill G now = b.refill G now := by
  have hl : ¬ now > (b.refill G now).last := by
    unfold refill
    split
    · exact Nat.lt_irrefl now
    · assumption
  generalize b.refill G now = b1 at hl ⊢
  rw [refill, if_neg hl]

theorem tryConsume_last (G : Nat) {b : Bucket} {now : Nat} (hnow : b.last ≤ now) :
    (b.tryConsume G now).1.last = now := by
  unfold tryConsume; split <;> exact refill_last G hnow

theorem tryConsume_admits {G : Nat} {b : Bucket} {now : Nat} (h : (b.refill G now).tokens ≥ G) :
    (b.tryConsume G now).2 = true := by
  unfold tryConsume; rw [if_pos h]

theorem tryConsume_refill (G : Nat) (b : Bucket) (now : Nat) :
    (b.refill G now).tryConsume G now = b.tryConsume G now := by
  unfold tryConsume; rw [refill_idem]

theorem rel_tryConsume {G : Nat} {b : Bucket} (now : Nat) (h : b.tokens ≤ b.cap * G) :
    Rel G b (b.tryConsume G now).1 (if (b.tryConsume G now).2 then 1 else 0) := by
  have hr := rel_refill now h
  unfold tryConsume
  by_cases hge : (b.refill G now).tokens ≥ G
  · simp only [if_pos hge]
    refine ⟨hr.cap, hr.rate, hr.time, ?_, ?_⟩
    · have := hr.conserve
      simp only [Nat.zero_mul, Nat.zero_add] at this
      simp only [↓reduceIte, Nat.one_mul]
      omega
    · have := hr.capped
      simp only at this ⊢
      omega
  · simp only [if_neg hge]; simpa using hr

theorem rel_refund (G : Nat) (b b' : Bucket) (n : Nat) (h : Rel G b b' (n + 1)) :
    Rel G b (b'.refundOne G) n := by
  refine ⟨h.cap, h.rate, h.time, ?_, by simp only [refundOne]; exact Nat.min_le_left _ _⟩
  have := h.conserve
  simp only [refundOne]
  have : min (b'.cap * G) (b'.tokens + G) ≤ b'.tokens + G := Nat.min_le_right _ _
  have e : (n + 1) * G = n * G + G := by rw [Nat.add_mul, Nat.one_mul]
  omega

end Bucket

namespace C19
open Bucket

/-- one whole `check_limit` as the tenant bucket sees it now that it stays locked until the global
    outcome is known (fix 78e4fe2): consume, and hand the token back when the global bucket refuses
    (`globalOk = false`) — one atomic step of the bucket -/
def tenantCall (G : Nat) (b : Bucket) (now : Nat) (globalOk : Bool) : Bucket × Bool :=
  if (b.tryConsume G now).2 then
    if globalOk then ((b.tryConsume G now).1, true) else ((b.tryConsume G now).1.refundOne G, false)
  else ((b.tryConsume G now).1, false)

theorem rel_tenantCall {G : Nat} {b : Bucket} (now : Nat) (g : Bool) (hc : b.tokens ≤ b.cap * G) :
    Rel G b (tenantCall G b now g).1 (if (tenantCall G b now g).2 then 1 else 0) := by
  have h1 := rel_tryConsume now hc
  unfold tenantCall
  cases hok : (b.tryConsume G now).2 with
  | false => rw [hok] at h1; simpa using h1
  | true =>
    rw [hok] at h1
    cases g with
    | true => simpa using h1
    | false =>
      simp only [↓reduceIte, Bool.false_eq_true]
      exact rel_refund G b _ 0 (by simpa using h1)

theorem tenantCall_last (G : Nat) {b : Bucket} {now : Nat} (g : Bool) (hnow : b.last ≤ now) :
    (tenantCall G b now g).1.last = now := by
  have hl := tryConsume_last G hnow
  unfold tenantCall
  -- `refundOne` leaves `last` alone
  by_cases h : (b.tryConsume G now).2 = true
  · rw [if_pos h]; cases g <;> exact hl
  · rw [if_neg h]; exact hl

/-- consume at each clock reading in turn; returns the bucket and the number admitted -/
def consumeAll (G : Nat) (b : Bucket) : List Nat → Bucket × Nat
  | [] => (b, 0)
  | t :: ts =>
    let r := b.tryConsume G t
    let rest := consumeAll G r.1 ts
    (rest.1, (if r.2 then 1 else 0) + rest.2)

/-- readings of a monotone clock, none before the bucket's last refill -/
def Monotone (last : Nat) : List Nat → Prop
  | [] => True
  | t :: ts => last ≤ t ∧ Monotone t ts

theorem consumeAll_rel {G : Nat} {b : Bucket} (ts : List Nat) (hc : b.tokens ≤ b.cap * G) :
    Rel G b (consumeAll G b ts).1 (consumeAll G b ts).2 := by
  induction ts generalizing b with
  | nil => exact Rel.refl G b hc
  | cons t rest ih =>
    have h1 := rel_tryConsume t hc
    exact Rel.trans h1 (ih h1.capped)

def tenantCalls (G : Nat) (b : Bucket) : List (Nat × Bool) → Bucket × Nat
  | [] => (b, 0)
  | (t, g) :: rest =>
    ((tenantCalls G (tenantCall G b t g).1 rest).1,
      (if (tenantCall G b t g).2 then 1 else 0) + (tenantCalls G (tenantCall G b t g).1 rest).2)

theorem tenantCalls_rel {G : Nat} {b : Bucket} (evs : List (Nat × Bool)) (hc : b.tokens ≤ b.cap * G) :
    Rel G b (tenantCalls G b evs).1 (tenantCalls G b evs).2 := by
  induction evs generalizing b with
  | nil => exact Rel.refl G b hc
  | cons e rest ih =>
    have h1 := rel_tenantCall e.1 e.2 hc
    exact Rel.trans h1 (ih h1.capped)

end C19

namespace RateLimiter

theorem lookup_setTenant (r : RateLimiter) (t : Nat) {x : Bucket} (g : Option Bucket) :
    ({ r.setTenant t x with global := g } : RateLimiter).lookup t = some x :=
  (congrArg (fun l => (l.find? (·.1 == t)).map (·.2)) (cons_filter_bne_eq_aset t x r.tenants)).trans
    ((find?_fst_eq_alookup t _).trans alookup_aset_self)

/-- **what `check_limit` does to the caller's bucket is `tenantCall`**, with the global bucket's
    answer (or `true` when there is none) as `globalOk`; the verdict is `tenantCall`'s -/
theorem checkLimit_tenant (G : Nat) (r : RateLimiter) {t : Nat} (qps cNew cT cG : Nat) {b : Bucket}
    (hb : r.lookup t = some b) :
    (r.checkLimit G t qps cNew cT cG).1.lookup t =
        some (C19.tenantCall G b cT (r.global.all fun g => (g.tryConsume G cG).2)).1 ∧
      (r.checkLimit G t qps cNew cT cG).2.1 =
        (C19.tenantCall G b cT (r.global.all fun g => (g.tryConsume G cG).2)).2 := by
  unfold checkLimit C19.tenantCall
  simp only [hb]
  cases (b.tryConsume G cT).2 with
  | false => exact ⟨lookup_setTenant r t r.global, rfl⟩
  | true =>
    cases r.global with
    | none => exact ⟨lookup_setTenant r t none, rfl⟩
    | some g => cases hg : (g.tryConsume G cG).2 <;> simp [hg, lookup_setTenant]

end RateLimiter
end KyroModel
