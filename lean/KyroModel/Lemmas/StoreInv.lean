/-
Store invariant `SI` (index = exactly the live slots' metadata; external→internal map sound;
metadata maps have unique keys) and its preservation by every store operation.
-/
import KyroModel.Lemmas.Compile
import KyroModel.Base.Fold

namespace KyroModel

open DocStore

/-- the slots as the index sees them: out of range counts as dead, with empty metadata -/
def viewOf (slots : List Slot) : SlotView := ⟨liveAt slots, mdAt slots⟩

section
variable (parse : String → Option Nat)

/-- the store invariant.  `e2i` is only sound (an id the map knows points at a live slot of that
    id), not complete: a live slot nothing points to is allowed (see `si_append`) -/
structure SI (s : DocStore) : Prop where
  idx : IdxInv parse s.idx (viewOf s.slots)
  uniq : ∀ sl ∈ s.slots, UniqueKeys sl.md
  e2i : ∀ id o, alookup id s.e2i = some o → (s.slots[o]?.bind (·.ext)) = some id

theorem uniq_mdAt {slots : List Slot} (h : ∀ sl ∈ slots, UniqueKeys sl.md) (i : Nat) :
    UniqueKeys (mdAt slots i) := by
  unfold mdAt
  cases hg : slots[i]? with
  | none => simp [UniqueKeys]
  | some sl => simpa using h sl (List.mem_of_getElem? hg)

theorem mdAt_of_getElem? {slots : List Slot} {i : Nat} {sl : Slot} (h : slots[i]? = some sl) :
    mdAt slots i = sl.md := by
  simp [mdAt, h]

theorem liveAt_of_getElem? {slots : List Slot} {i : Nat} {sl : Slot} (h : slots[i]? = some sl) :
    liveAt slots i = sl.ext.isSome := by
  simp [liveAt, h]

theorem mem_scan (s : DocStore) {p : MetaMap → Bool} (id : Nat) :
    id ∈ s.scan p ↔ ∃ sl ∈ s.slots, sl.ext = some id ∧ p sl.md = true := by
  simp only [scan, List.mem_filterMap]
  refine exists_congr fun sl => and_congr_right fun _ => ?_
  cases sl.ext <;> simp [and_comm]

theorem view_append (slots : List Slot) (nw : Slot) (hn : nw.ext.isSome = true) (j : Nat) :
    (viewOf (slots ++ [nw])).live j = ((viewOf slots).setLive slots.length nw.md).live j ∧
    (viewOf (slots ++ [nw])).md j = ((viewOf slots).setLive slots.length nw.md).md j := by
  simp only [viewOf, liveAt, mdAt, SlotView.setLive]
  by_cases h : j = slots.length
  · subst h
    simp only [List.getElem?_concat_length, ↓reduceIte, Option.bind_some, hn, Option.map_some,
      Option.getD_some, and_self]
  · simp only [h, ↓reduceIte]
    by_cases h' : j < slots.length
    · rw [List.getElem?_append_left h']; exact ⟨rfl, rfl⟩
    · rw [List.getElem?_eq_none (by simp only [List.length_append, List.length_singleton]; omega),
        List.getElem?_eq_none (by omega)]; exact ⟨rfl, rfl⟩

theorem view_tombstone {slots : List Slot} (o j : Nat) :
    (viewOf (tombstone slots o)).live j = ((viewOf slots).setDead o).live j ∧
    (viewOf (tombstone slots o)).md j = ((viewOf slots).setDead o).md j := by
  simp only [viewOf, liveAt, mdAt, SlotView.setDead, tombstone, List.getElem?_modify]
  by_cases h : o = j
  · subst h
    cases slots[o]? <;> simp
  · have : j ≠ o := fun e => h e.symm
    simp [h, this]

theorem view_setMd {slots : List Slot} {o : Nat} (m : MetaMap) (hl : liveAt slots o = true) (j : Nat) :
    (viewOf (slots.modify o fun sl => { sl with md := m })).live j =
      (((viewOf slots).setDead o).setLive o m).live j ∧
    (viewOf (slots.modify o fun sl => { sl with md := m })).md j =
      (((viewOf slots).setDead o).setLive o m).md j := by
  simp only [viewOf, liveAt, mdAt, SlotView.setDead, SlotView.setLive, List.getElem?_modify]
  by_cases h : o = j
  · subst h
    unfold liveAt at hl
    cases hg : slots[o]? with
    | none => rw [hg] at hl; simp at hl
    | some sl => rw [hg] at hl; simp at hl ⊢; exact hl
  · have : j ≠ o := fun e => h e.symm
    simp [h, this]

theorem liveAt_of_e2i {s : DocStore} {id o : Nat}
    (he : ∀ id o, alookup id s.e2i = some o → (s.slots[o]?.bind (·.ext)) = some id)
    (h : alookup id s.e2i = some o) : liveAt s.slots o = true ∧ o < s.slots.length := by
  have := he id o h
  unfold liveAt
  rw [this]
  refine ⟨rfl, ?_⟩
  cases hg : s.slots[o]? with
  | none => rw [hg] at this; cases this
  | some sl => exact (List.getElem?_eq_some_iff.mp hg).1

/-- `tombstone` and the metadata replacement both rewrite one slot (`List.modify`): unique keys are
    kept if the rewriting keeps them -/
theorem uniq_modify {slots : List Slot} (o : Nat) {g : Slot → Slot}
    (hg : ∀ sl, UniqueKeys sl.md → UniqueKeys (g sl).md) (h : ∀ sl ∈ slots, UniqueKeys sl.md) :
    ∀ sl ∈ slots.modify o g, UniqueKeys sl.md := by
  intro sl hsl
  obtain ⟨i, hi, rfl⟩ := List.getElem_of_mem hsl
  rw [List.getElem_modify]
  split
  · exact hg _ (h _ (List.getElem_mem _))
  · exact h _ (List.getElem_mem _)

/-- … and slot `j` names the document it named, unless it is the rewritten slot and the rewriting
    changes the name -/
theorem ext_modify {slots : List Slot} {o j : Nat} {g : Slot → Slot}
    (hg : o = j → ∀ sl, (g sl).ext = sl.ext) :
    ((slots.modify o g)[j]?.bind (·.ext)) = (slots[j]?.bind (·.ext)) := by
  rw [List.getElem?_modify]
  cases slots[j]? with
  | none => rfl
  | some sl =>
    show (if o = j then g sl else sl).ext = sl.ext
    split
    · next e => exact hg e sl
    · rfl

variable {parse}

theorem SI.e2i_inj {s : DocStore} (hs : SI parse s) {id id' o : Nat}
    (h : alookup id s.e2i = some o) (h' : alookup id' s.e2i = some o) : id = id' :=
  Option.some.inj ((hs.e2i id o h).symm.trans (hs.e2i id' o h'))

/-- appending the new slot of `id` and pointing `id` at it (the slot `id` had before, if any,
    stays live but unreferenced: `SI` allows that) -/
theorem si_append {s : DocStore} (id : Nat) (v : List Nat) {m : MetaMap} (ver : Nat)
    (hs : SI parse s) (hm : UniqueKeys m) :
    SI parse { s with slots := s.slots ++ [⟨v, m, ver, some id⟩],
                      e2i := aset id s.slots.length s.e2i,
                      idx := s.idx.insertDoc parse s.slots.length m } := by
  refine ⟨?_, ?_, ?_⟩
  · exact idxInv_of_pointwise
      (idxInv_insertDoc _ m hs.idx (by simp [viewOf, liveAt]))
      (fun j => view_append s.slots (⟨v, m, ver, some id⟩ : Slot) rfl j)
  · intro sl hsl
    rcases List.mem_append.mp hsl with h | h
    · exact hs.uniq sl h
    · simp only [List.mem_singleton] at h; subst h; exact hm
  · intro id' o' hl
    simp only at hl ⊢
    by_cases hid : id' = id
    · subst hid
      simp only [alookup_aset_self, Option.some.injEq] at hl
      subst hl
      simp
    · rw [alookup_aset_ne hid] at hl
      rw [List.getElem?_append_left (liveAt_of_e2i hs.e2i hl).2]
      exact hs.e2i id' o' hl

theorem si_tombstone {s : DocStore} {o : Nat} (hs : SI parse s)
    (hfree : ∀ id, alookup id s.e2i ≠ some o) :
    SI parse { s with slots := tombstone s.slots o,
                      idx := s.idx.removeDoc parse o (mdAt s.slots o) } := by
  refine ⟨?_, uniq_modify o (fun _ _ => List.nodup_nil) hs.uniq, ?_⟩
  · exact idxInv_of_pointwise
      (idxInv_removeDoc o (mdAt s.slots o) hs.idx (fun _ => rfl))
      (fun j => view_tombstone o j)
  · intro id' o' hl
    exact (ext_modify fun (e : o = o') => absurd (e ▸ hl) (hfree id')).trans (hs.e2i id' o' hl)

theorem si_insertWith {s : DocStore} (id : Nat) (v : List Nat) {m : MetaMap} {ver : Nat}
    (hs : SI parse s) (hm : UniqueKeys m) : SI parse (s.insertWith parse id v m ver) := by
  have h1 := si_append id v ver hs hm
  unfold insertWith
  split
  · exact h1
  · rename_i o hold
    have ho := (liveAt_of_e2i hs.e2i hold).2
    have hmd : mdAt s.slots o = mdAt (s.slots ++ [(⟨v, m, ver, some id⟩ : Slot)]) o := by
      unfold mdAt; rw [List.getElem?_append_left ho]
    rw [hmd]
    refine si_tombstone h1 fun id' hl => ?_
    -- `id` now points to the new slot, and no other id pointed to `o`
    by_cases hid : id' = id
    · subst hid
      simp only [alookup_aset_self, Option.some.injEq] at hl
      omega
    · rw [alookup_aset_ne hid] at hl
      exact hid (hs.e2i_inj hl hold)

theorem si_delete {s : DocStore} (id : Nat) (hs : SI parse s) : SI parse (s.delete parse id).1 := by
  unfold delete
  split
  · exact hs
  · rename_i o hold
    split
    · exact hs
    · -- forget `id`, then tombstone its slot, to which no other id points
      have sub : ∀ id' o', alookup id' (aerase id s.e2i) = some o' →
          id' ≠ id ∧ alookup id' s.e2i = some o' := by
        intro id' o' hl
        rw [alookup_aerase] at hl
        by_cases hid : id' = id
        · rw [if_pos hid] at hl; cases hl
        · rw [if_neg hid] at hl; exact ⟨hid, hl⟩
      have h1 : SI parse { s with e2i := aerase id s.e2i } :=
        ⟨hs.idx, hs.uniq, fun id' o' hl => hs.e2i id' o' (sub id' o' hl).2⟩
      exact si_tombstone h1 fun id' hl =>
        (sub id' o hl).1 (hs.e2i_inj (sub id' o hl).2 hold)

theorem si_batchDelete {s : DocStore} (ids : List Nat) (hs : SI parse s) :
    SI parse (s.batchDelete parse ids).1 :=
  List.foldlRecOn (motive := fun acc : DocStore × Nat => SI parse acc.1) ids _ hs
    fun _ h id _ => si_delete id h

theorem si_updateMeta {s : DocStore} (id : Nat) {m : MetaMap} (hs : SI parse s)
    (hm : UniqueKeys m) : SI parse (s.updateMeta parse id m).1 := by
  unfold updateMeta
  split
  · exact hs
  · rename_i o hold
    have ho := liveAt_of_e2i hs.e2i hold
    refine ⟨?_, ?_, ?_⟩
    · exact idxInv_of_pointwise
        (idxInv_replaceDoc o (mdAt s.slots o) m hs.idx (fun _ => rfl))
        (fun j => view_setMd m ho.1 j)
    · exact uniq_modify o (fun _ _ => hm) hs.uniq
    · intro id' o' hl
      rw [ext_modify]
      · exact hs.e2i id' o' hl
      · exact fun _ _ => rfl

/-- the view of the slots below `n`: what `rebuildIdx` has indexed after `n` steps -/
def viewUpto (slots : List Slot) (n : Nat) : SlotView :=
  ⟨fun j => decide (j < n) && liveAt slots j, mdAt slots⟩

theorem viewUpto_succ_live (slots : List Slot) (n j : Nat) :
    (viewUpto slots (n + 1)).live j = if j = n then liveAt slots n else (viewUpto slots n).live j := by
  simp only [viewUpto]
  split
  · subst j; simp
  · rw [decide_eq_decide.mpr (by omega : j < n + 1 ↔ j < n)]

variable (parse) in
theorem idxInv_rebuild {slots : List Slot} : IdxInv parse (rebuildIdx parse slots) (viewOf slots) := by
  unfold rebuildIdx
  refine idxInv_of_pointwise (foldl_indexed (fun n x => IdxInv parse x (viewUpto slots n)) _ _ _
    (idxInv_of_pointwise (idxInv_empty parse (mdAt slots)) fun j => ⟨by simp [viewUpto], rfl⟩)
    fun n x i hi ih => ?_) fun j => ?_
  · -- the `n`-th element of the range is `n`
    obtain ⟨-, rfl⟩ : n < slots.length ∧ n = i := by simpa [List.getElem?_eq_some_iff] using hi
    have hlive := viewUpto_succ_live slots n
    have hn : (viewUpto slots n).live n = false := by simp [viewUpto]
    split
    · rename_i hl
      exact idxInv_of_pointwise (idxInv_insertDoc n (mdAt slots n) ih hn)
        fun j => ⟨by rw [hlive j, hl]; rfl,
          by simp only [SlotView.setLive, viewUpto]; split <;> simp [*]⟩
    · rename_i hl
      exact idxInv_of_pointwise ih fun j => ⟨by rw [hlive j]; split <;> simp [*], rfl⟩
  · simp only [viewOf, viewUpto, List.length_range, and_true]
    by_cases hj : j < slots.length
    · simp [hj]
    · have : slots[j]? = none := List.getElem?_eq_none (by omega)
      simp [liveAt, this]

theorem si_compact {s : DocStore} (hs : SI parse s) : SI parse (s.compact parse) := by
  unfold compact
  refine ⟨idxInv_rebuild parse, ?_, ?_⟩
  · intro sl hsl
    exact hs.uniq sl (List.mem_filter.mp hsl).1
  · intro id o hl
    have := mem_of_alookup hl
    simp only [List.mem_filterMap, List.mem_range, Option.map_eq_some_iff, Prod.mk.injEq] at this
    obtain ⟨i, _, id', hid, rfl, rfl⟩ := this
    exact hid

theorem si_insert {s : DocStore} (id : Nat) (v : List Nat) {m : MetaMap} (hs : SI parse s)
    (hm : UniqueKeys m) : SI parse (s.insert parse id v m).1 := by
  have hc := si_compact hs
  -- `by_cases` + `if_pos`/`if_neg`: `split` on these `if`s is several times dearer to check
  unfold DocStore.insert
  by_cases h1 : s.slots.length ≥ s.cap
  · rw [if_pos h1]
    by_cases h2 : s.tombstones > 0
    · rw [if_pos h2]
      by_cases h3 : (s.compact parse).slots.length ≥ (s.compact parse).cap
      · simp only [if_pos h3]; exact hc
      · simp only [if_neg h3]; exact si_insertWith id v hc hm
    · rw [if_neg h2]; exact hs
  · rw [if_neg h1]; exact si_insertWith id v hs hm

variable (parse) in
theorem si_empty (cap : Nat) : SI parse (DocStore.empty cap) :=
  ⟨idxInv_of_pointwise (idxInv_empty parse (mdAt []))
     fun j => ⟨by simp [viewOf, liveAt, DocStore.empty], rfl⟩,
   by simp [DocStore.empty], by simp [DocStore.empty]⟩

end
end KyroModel
