/-
Histories: every operation except the batch delete has the shape `OpSpec` (`pStep_spec`) and the
batch delete preserves the invariant too, so the engine invariant holds
after every history (`einv_pRun`); a refused operation has done nothing (`pStep_refused`).
-/
import KyroModel.Persist.Ops
import KyroModel.Lemmas.PersistEngine

namespace KyroModel

theorem pStep_spec {e : PEng} {d : Disk} {op : POp} (h : EInv e d) (hv : op.valid)
    (hnb : op.isBatch = false) : OpSpec e d (pStep e d op).1 (pStep e d op).2.1 := by
  cases op with
  | insert id v m acc fl fd => exact (pInsert_shape e d id v m fl fd hv).opSpec h
  | delete id fl => exact (pDelete_shape e d id fl).opSpec h
  | update id md fl => exact (pUpdate_shape e d id md fl).opSpec h
  | batchDelete ids fl => cases hnb
  | snapshot => exact .same (snapshot_spec h).1 (snapshot_spec h).2
  | restart =>
    obtain ⟨e', as, hr, _, hinv, hk⟩ := pRestart_spec e d h
    simp only [pStep, hr]
    exact .same hinv hk
  | ioFailed n =>
    exact .refuse (e' := { e with nextSeq := e.nextSeq + n })
      { h with dinv := h.dinv.mono (Nat.le_add_right _ _) }

theorem einv_pStep {e : PEng} {d : Disk} {op : POp} (h : EInv e d) (hv : op.valid) :
    EInv (pStep e d op).1 (d.applyAll (pStep e d op).2.1) := by
  cases hb : op.isBatch with
  | false => exact (pStep_spec h hv hb).inv
  | true =>
    cases op with
    | batchDelete ids fl => exact ((pBatchDelete_spec e d ids fl).2.2 h).1
    | _ => cases hb

theorem einv_pRun (cfg : PCfg) {ops : List POp} (hv : ∀ op ∈ ops, op.valid) :
    EInv (pRun cfg ops).1 (pRun cfg ops).2 :=
  List.foldlRecOn (motive := fun s : PEng × Disk => EInv s.1 s.2) ops _ (pInit_spec cfg)
    fun _ h op hop => einv_pStep h (hv op hop)

theorem pRun_append (cfg : PCfg) (ops more : List POp) :
    pRun cfg (ops ++ more) = more.foldl (fun (s : PEng × Disk) op =>
      ((pStep s.1 s.2 op).1, s.2.applyAll (pStep s.1 s.2 op).2.1)) (pRun cfg ops) :=
  List.foldl_append

/-- no invariant needed: every refusal is decided before anything is logged -/
theorem pStep_refused {e : PEng} {d : Disk} {op : POp} (hv : op.valid)
    (hfail : (pStep e d op).2.2 = .rejected ∨ (pStep e d op).2.2 = .full ∨ (pStep e d op).2.2 = .err) :
    (pStep e d op).1.store.docs = e.store.docs ∧ (pStep e d op).2.1 = [] := by
  have hno : (pStep e d op).2.2 ≠ .ok ∧ (pStep e d op).2.2 ≠ .bool true ∧
      ∀ n, (pStep e d op).2.2 ≠ .count n := by
    generalize (pStep e d op).2.2 = o at hfail
    rcases hfail with rfl | rfl | rfl <;>
      exact ⟨POut.noConfusion, POut.noConfusion, fun _ => POut.noConfusion⟩
  cases op with
  | insert id v m acc fl fd => exact (pInsert_shape e d id v m fl fd hv).result.2 hno.1
  | delete id fl => exact (pDelete_shape e d id fl).result.2 hno.2.1
  | batchDelete ids fl => exact (pBatchDelete_spec e d ids fl).2.1 hno.2.2
  | update id md fl => exact (pUpdate_shape e d id md fl).result.2 hno.2.1
  | snapshot => exact absurd rfl hno.1
  | restart =>
    revert hno
    unfold pStep
    cases pRestart e.cfg e.nextName d with
    | ok p => exact fun hno => absurd rfl hno.1
    | error _ => exact fun _ => ⟨rfl, rfl⟩
  | ioFailed n => exact ⟨rfl, rfl⟩

end KyroModel
