/-
The canonical check and the read paths.  Each read function gets one lemma saying what it does to
the state (`Scrub`) and what it answers; injectivity of the digest is needed for the answer only.
No hypothesis on cache / mirror contents anywhere in this file: they may hold arbitrary (stale,
corrupted, foreign) entries.
-/
import KyroModel.Lemmas.Footprint

namespace KyroModel
section
variable {D : Type} [DecidableEq D] {digest : Vec → D}

theorem canonicalState_eq_matched {cold : Cold} {id : Nat} {v : Vec} {t : Token D}
    (h : canonicalState digest cold id v t = .matched) :
    ∃ d, alookup id cold = some d ∧ coldToken digest d = t ∧ digest v = t.dig := by
  unfold canonicalState at h
  cases hd : alookup id cold with
  | none => rw [hd] at h; cases h
  | some d =>
    rw [hd] at h; dsimp only at h
    by_cases htok : coldToken digest d = t
    · by_cases hdig : digest v = t.dig
      · exact ⟨d, rfl, htok, hdig⟩
      · rw [if_neg (fun hn => hn htok), if_pos hdig] at h; cases h
    · rw [if_pos htok] at h; cases h

/-- The single lemma everything rests on: a positive canonical check means the served payload
    *is* the canonical vector (given an injective digest). -/
theorem canonicalState_matched (hinj : Function.Injective digest) {cold : Cold} {id : Nat}
    {v : Vec} {t : Token D} (h : canonicalState digest cold id v t = .matched) :
    ∃ d, alookup id cold = some d ∧ d.vec = v ∧ coldToken digest d = t := by
  obtain ⟨d, hd, ht, hv⟩ := canonicalState_eq_matched h
  exact ⟨d, hd, (hinj (hv.trans (by rw [← ht]; rfl))).symm, ht⟩

theorem canonicalState_matched_vec (hinj : Function.Injective digest) {cold : Cold} {id : Nat}
    {v : Vec} {t : Token D} (h : canonicalState digest cold id v t = .matched) :
    (alookup id cold).map (·.vec) = some v := by
  obtain ⟨d, hd, hv, _⟩ := canonicalState_matched hinj h
  rw [hd, ← hv]; rfl

variable (digest)

/-- A read leg scrubs, and answers only with a copy that passed the canonical check. -/
structure Leg (s : TState D) (id : Nat) (r : TState D × Option Vec) : Prop where
  scrub : Scrub s r.1
  -- against the PRE-state's store: by `scrub.cold` it is also the store afterwards
  checked : ∀ v, r.2 = some v → ∃ t, canonicalState digest s.cold id v t = .matched

theorem Leg.miss {s s' : TState D} {id : Nat} (h : Scrub s s') : Leg digest s id (s', none) :=
  ⟨h, fun _ e => nomatch e⟩

theorem Leg.hit {s s' : TState D} {id : Nat} {v : Vec} {t : Token D} (h : Scrub s s')
    (hm : canonicalState digest s.cold id v t = .matched) : Leg digest s id (s', some v) :=
  ⟨h, fun _ e => ⟨t, Option.some.inj e ▸ hm⟩⟩

variable {digest} in
theorem Leg.serves (hinj : Function.Injective digest) {s s' : TState D} {id : Nat}
    {r : TState D × Option Vec} (h : Leg digest s id r) {v : Vec} (e : r = (s', some v)) :
    (alookup id s.cold).map (·.vec) = some v := by
  obtain ⟨t, hm⟩ := h.checked v (congrArg Prod.snd e)
  exact canonicalState_matched_vec hinj hm

theorem queryL1_leg (s : TState D) (id : Nat) : Leg digest s id (queryL1 digest s id) := by
  have hg : Scrub s { s with l1a := (s.l1a.get id).1 } := .ofL1a (.get _ _)
  unfold queryL1
  simp only
  split
  · split
    · next hm => exact .hit digest hg hm
    · exact .miss digest (hg.trans (.ofL1a (.invalidate _ _)))
  · exact .miss digest hg

theorem queryL2_leg (s : TState D) (id : Nat) (a : Bool) :
    Leg digest s id (queryL2 digest s id a) := by
  unfold queryL2
  split
  · split
    · next hm => exact .hit digest scrub_admitTo hm
    · exact .miss digest (scrub_discardHot s id)
    · exact .miss digest (scrub_discardHot s id)
    · exact .miss digest (.refl s)
  · exact .miss digest (.refl s)

theorem hotLeg_leg (s : TState D) (id : Nat) : Leg digest s id (hotLeg digest s id) := by
  unfold hotLeg
  split
  · split
    · next hm => exact .hit digest (.refl s) hm
    · exact .miss digest (scrub_discardHot s id)
    · exact .miss digest (scrub_discardHot s id)
    · exact .miss digest (.refl s)
  · exact .miss digest (.refl s)

theorem peekLeg_leg (s : TState D) (id : Nat) : Leg digest s id (peekLeg digest s id) := by
  unfold peekLeg
  split
  · split
    · next hm => exact .hit digest (.refl s) hm
    · exact .miss digest (.ofL1a (.invalidate _ _))
  · exact .miss digest (.refl s)

theorem queryL3_spec (s : TState D) (id : Nat) (a : Bool) :
    Scrub s (queryL3 digest s id a).1 ∧
    (queryL3 digest s id a).2 = (alookup id s.cold).map (·.vec) := by
  unfold queryL3
  split
  · next hd => exact ⟨scrub_admitTo, by rw [hd]; rfl⟩
  · next hd => exact ⟨.refl s, by rw [hd]; rfl⟩

/-- What a read path does: it scrubs and, the digest being injective, answers `want`. -/
structure Reads {α : Type} (s s' : TState D) (got want : α) : Prop where
  scrub : Scrub s s'
  ans : Function.Injective digest → got = want

theorem query_spec (s : TState D) (id : Nat) (a : Bool) :
    Reads digest s (query digest s id a).1 ((query digest s id a).2.map (·.1))
      ((alookup id s.cold).map (·.vec)) := by
  have l1 := queryL1_leg digest s id
  unfold query
  split
  · next h1 => exact ⟨l1.scrub.of_eq h1, fun hinj => (l1.serves hinj h1).symm⟩
  · next s1 h1 =>
    have c1 := l1.scrub.of_eq h1
    have l2 := queryL2_leg digest s1 id a
    split
    · next h2 =>
      exact ⟨c1.trans (l2.scrub.of_eq h2), fun hinj => c1.cold ▸ (l2.serves hinj h2).symm⟩
    · next s2 h2 =>
      have c2 := c1.trans (l2.scrub.of_eq h2)
      obtain ⟨c3, h3⟩ := queryL3_spec digest s2 id a
      split <;> next e =>
        exact ⟨c2.trans (c3.of_eq e), fun _ => by rw [e, c2.cold] at h3; rw [← h3]; rfl⟩

theorem docWithMeta_spec (s : TState D) (id : Nat) :
    Reads digest s (docWithMeta digest s id).1 (docWithMeta digest s id).2
      ((alookup id s.cold).map fun d => (d.vec, d.md)) := by
  have l := hotLeg_leg digest s id
  unfold docWithMeta
  split
  · next d0 hd0 =>
    split
    · next v h1 =>
      refine ⟨l.scrub.of_eq h1, fun hinj => ?_⟩
      have := l.serves hinj h1
      rw [hd0] at this ⊢
      rw [← Option.some.inj this]; rfl
    · next s1 h1 =>
      have c := l.scrub.of_eq h1
      rw [c.cold, hd0]
      exact ⟨c, fun _ => rfl⟩
  · next hd0 => exact ⟨.refl s, fun _ => by rw [hd0]; rfl⟩

theorem embAware_spec (s : TState D) (id : Nat) :
    Reads digest s (embAware digest s id).1 (embAware digest s id).2
      ((alookup id s.cold).map (·.vec)) := by
  have l1 := peekLeg_leg digest s id
  unfold embAware
  split
  · next h1 => exact ⟨l1.scrub.of_eq h1, fun hinj => (l1.serves hinj h1).symm⟩
  · next s1 h1 =>
    have c1 := l1.scrub.of_eq h1
    have l2 := hotLeg_leg digest s1 id
    split
    · next h2 =>
      exact ⟨c1.trans (l2.scrub.of_eq h2), fun hinj => c1.cold ▸ (l2.serves hinj h2).symm⟩
    · next s2 h2 =>
      have c2 := c1.trans (l2.scrub.of_eq h2)
      exact ⟨c2, fun _ => by rw [c2.cold]⟩

/-- canonical answer of a bulk query for one id, without the tier tag -/
def bulkSpec (cold : Cold) (id : Nat) : Option (Vec × Meta) :=
  (alookup id cold).map fun d => (d.vec, d.md)

def dropTier (r : Option (Vec × Meta × Tier)) : Option (Vec × Meta) := r.map fun x => (x.1, x.2.1)

theorem bulkOne_spec (s : TState D) (id : Nat) :
    Scrub s (bulkOne digest s id).1 ∧
    (Function.Injective digest → ∀ x, (bulkOne digest s id).2 = some x →
      bulkSpec s.cold id = some (x.1, x.2.1)) := by
  unfold bulkOne
  split
  · split
    · next hm =>
      refine ⟨by split <;> exact .refl s, fun hinj x hx => ?_⟩
      obtain ⟨d, hd, hvec, _⟩ := canonicalState_matched hinj hm
      rw [hd] at hx
      rw [← Option.some.inj hx, bulkSpec, hd, ← hvec]; rfl
    · exact ⟨scrub_discardHot s id, fun _ _ hx => nomatch hx⟩
    · exact ⟨scrub_discardHot s id, fun _ _ hx => nomatch hx⟩
    · exact ⟨.refl s, fun _ _ hx => nomatch hx⟩
  · exact ⟨.refl s, fun _ _ hx => nomatch hx⟩

theorem bulkPass_spec (ids : List Nat) (s : TState D) :
    Reads digest s (bulkPass digest s ids).1
      ((bulkFill s.cold ids (bulkPass digest s ids).2).map dropTier) (ids.map (bulkSpec s.cold)) := by
  induction ids generalizing s with
  | nil => exact ⟨.refl s, fun _ => rfl⟩
  | cons i rest ih =>
    obtain ⟨c1, a1⟩ := bulkOne_spec digest s i
    unfold bulkPass
    split
    next s1 o h1 =>
    split
    next s2 rs h2 =>
    have c1 := c1.of_eq h1
    obtain ⟨c2, a2⟩ := ih s1
    refine ⟨c1.trans (c2.of_eq h2), fun hinj => ?_⟩
    have hrest := a2 hinj
    rw [h2, c1.cold] at hrest
    simp only [bulkFill, List.map_cons, hrest]
    congr 1
    cases o with
    | some x => exact (a1 hinj x (congrArg Prod.snd h1)).symm
    | none => simp only [dropTier, bulkSpec]; cases alookup i s.cold <;> rfl

theorem bulkQuery_spec (s : TState D) (ids : List Nat) :
    Reads digest s (bulkQuery digest s ids).1 ((bulkQuery digest s ids).2.map dropTier)
      (ids.map (bulkSpec s.cold)) := by
  obtain ⟨c, a⟩ := bulkPass_spec digest ids s
  unfold bulkQuery
  split
  next s1 fp h =>
  have c := c.of_eq h
  exact ⟨c, fun hinj => by rw [c.cold]; have := a hinj; rwa [h] at this⟩

end
end KyroModel
