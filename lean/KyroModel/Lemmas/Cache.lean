/-
The document cache: `VCache.Inv` / `L1a.Inv` (unique keys, at most `max cap 1` entries per cache,
an instance of `LruInv`) and `L1a.caps` (capacities and kind), both closed under the cache API
(`closed_inv`, `closed_caps`), and the size bound they give (`size_le_of_inv`): what C20 uses.
-/
import KyroModel.Lemmas.Footprint
import KyroModel.Lemmas.Lru

namespace KyroModel

namespace VCache
variable {D : Type}

/-- The cache's structural invariant: unique keys and at most `max cap 1` entries
    (`capacity = 0` degenerates to a one-entry cache in both code and model). -/
def Inv (c : VCache D) : Prop := AKeysNodup c.entries ∧ c.entries.length ≤ max c.cap 1

theorem Inv.lru {c : VCache D} (h : c.Inv) : LruInv (·.1) c.cap c.entries := h

theorem inv_insert (c : VCache D) (id : Nat) (e : CEntry D) (h : c.Inv) : (c.insert id e).Inv := by
  unfold insert
  cases hlook : alookup id c.entries with
  | some x => exact h.lru.readd (mem_akeys_of_alookup hlook) (fun _ => of_decide_eq_true) rfl
  | none => exact h.lru.add (not_mem_of_alookup_none hlook)

theorem inv_get (c : VCache D) (id : Nat) (h : c.Inv) : (c.get id).1.Inv := by
  unfold get
  cases hlook : alookup id c.entries with
  | some x => exact h.lru.readd (mem_akeys_of_alookup hlook) (fun _ => of_decide_eq_true) rfl
  | none => exact h

theorem inv_remove (c : VCache D) (id : Nat) (h : c.Inv) : (c.remove id).Inv :=
  h.lru.filter _

@[simp] theorem cap_insert (c : VCache D) (id : Nat) (e : CEntry D) : (c.insert id e).cap = c.cap := by
  unfold insert; split <;> rfl
@[simp] theorem cap_get (c : VCache D) (id : Nat) : (c.get id).1.cap = c.cap := by
  unfold get; split <;> rfl
@[simp] theorem cap_remove (c : VCache D) (id : Nat) : (c.remove id).cap = c.cap := rfl

end VCache

namespace L1a
variable {D : Type}

/-- both caches, also the one a single-cache strategy never uses -/
def Inv (l : L1a D) : Prop := l.a.Inv ∧ l.b.Inv

theorem inv_insert (l : L1a D) (id : Nat) (e : CEntry D) (h : l.Inv) : (l.insert id e).Inv := by
  unfold insert; split
  · exact ⟨h.1, VCache.inv_insert _ _ _ h.2⟩
  · exact ⟨VCache.inv_insert _ _ _ h.1, h.2⟩

theorem inv_get (l : L1a D) (id : Nat) (h : l.Inv) : (l.get id).1.Inv := by
  unfold get; split
  · exact ⟨h.1, VCache.inv_get _ _ h.2⟩
  · exact ⟨VCache.inv_get _ _ h.1, h.2⟩

theorem inv_invalidate (l : L1a D) (id : Nat) (h : l.Inv) : (l.invalidate id).Inv :=
  ⟨VCache.inv_remove _ _ h.1, VCache.inv_remove _ _ h.2⟩

theorem closed_inv : L1Closed (fun l : L1a D => l.Inv) :=
  ⟨inv_get, inv_insert, inv_invalidate⟩

theorem inv_foldl_invalidate (ids : List Nat) (l : L1a D) (h : l.Inv) :
    (ids.foldl (fun l id => l.invalidate id) l).Inv :=
  (L1Api.foldl_invalidate (fun x => x) ids l).keeps closed_inv h

theorem inv_init (kind : StratKind) (cap hard soft dim : Nat) :
    (TState.init D kind cap hard soft dim).l1a.Inv := ⟨LruInv.nil, LruInv.nil⟩

/-- what no operation of the strategy changes: both capacities and the kind -/
def caps (l : L1a D) : Nat × Nat × StratKind := (l.a.cap, l.b.cap, l.kind)

@[simp] theorem caps_insert (l : L1a D) (id : Nat) (e : CEntry D) : (l.insert id e).caps = l.caps := by
  unfold insert caps; split <;> simp
@[simp] theorem caps_get (l : L1a D) (id : Nat) : (l.get id).1.caps = l.caps := by
  unfold get caps; split <;> simp
@[simp] theorem caps_invalidate (l : L1a D) (id : Nat) : (l.invalidate id).caps = l.caps := rfl

theorem closed_caps (c : Nat × Nat × StratKind) : L1Closed (fun l : L1a D => l.caps = c) :=
  ⟨fun l id h => (caps_get l id).trans h, fun l id e h => (caps_insert l id e).trans h,
   fun _ _ h => h⟩

theorem caps_foldl_invalidate (ids : List Nat) (l : L1a D) :
    (ids.foldl (fun l id => l.invalidate id) l).caps = l.caps :=
  (L1Api.foldl_invalidate (fun x => x) ids l).keeps (closed_caps l.caps) rfl

theorem size_le_of_inv {l : L1a D} (h : l.Inv) {ca cb : Nat} {kind : StratKind}
    (hc : l.caps = (ca, cb, kind)) :
    l.size ≤ (if kind == .ab then max ca 1 + max cb 1 else max ca 1) := by
  cases hc
  have ha : l.a.size ≤ _ := h.1.2
  have hb : l.b.size ≤ _ := h.2.2
  unfold size
  split <;> omega

end L1a
end KyroModel
