/-
Unwinding lemmas for tenant non-interference (C10): the A-view of the server state, output
consistency (a request of A answers the same on two states with the same A-view and leaves them
with the same A-view) and local respect (a request of B ≠ A does not change the A-view): first for the
id-addressed RPCs, on any states; then with `BatchDelete` by filter, on states that satisfy `Inv`.
-/
import KyroModel.Lemmas.TenantInv
import KyroModel.Lemmas.TenantBulk
import KyroModel.Theorems.C14

namespace KyroModel.Srv

/-- two states that tenant `a` cannot tell apart through the id-addressed RPCs: the documents in `a`'s id range,
    and also `dim` and `a`'s `count`, because they decide engine refusal and quota admission -/
structure ViewEq (a : Tn) (s1 s2 : S) : Prop where
  dim : s1.dim = s2.dim
  docs : ∀ g, g / limit32 = a.idx → alookup g s1.docs = alookup g s2.docs
  /-- of `count` (the admission counter), not of `cnt` (the census) -/
  cnt : count s1 a = count s2 a

theorem ViewEq.refl (a : Tn) (s : S) : ViewEq a s s := ⟨rfl, fun _ _ => rfl, rfl⟩
theorem ViewEq.symm {a : Tn} {s1 s2 : S} (h : ViewEq a s1 s2) : ViewEq a s2 s1 :=
  ⟨h.dim.symm, fun g hg => (h.docs g hg).symm, h.cnt.symm⟩
theorem ViewEq.trans {a : Tn} {s1 s2 s3 : S} (h1 : ViewEq a s1 s2) (h2 : ViewEq a s2 s3) : ViewEq a s1 s3 :=
  ⟨h1.dim.trans h2.dim, fun g hg => (h1.docs g hg).trans (h2.docs g hg), h1.cnt.trans h2.cnt⟩

/-- the id-addressed RPCs of one tenant.  Search / BulkSearch (results depend on other tenants' data:
    `C10_search_count_leak`), FlushHotTier and `/usage` are left out. -/
inductive Req
  | insert (lid : Nat) (v : List Nat) (m : Meta) (ns : String)
  | delete (lid : Nat) (ns : String)
  | update (lid : Nat) (m : Meta) (merge : Bool) (ns : String)
  | query (lid : Nat) (ns : String)
  | bulkQuery (lids : List Nat) (ns : String)
  | bdIds (lids : List Nat) (ns : String)
  | bulkInsert (items : List Item)
  | bulkLoad (items : List Item)

inductive Resp
  | unit (r : Except Err Unit)
  | bool (r : Except Err Bool)
  | nat (r : Except Err Nat)
  | read (r : Except Err (Option (List Nat × Meta)))
  | reads (r : Except Err (List (Nat × Option (List Nat × Meta))))
  | counts (inserted failed : Nat)
  | loaded (r : Except Err (Nat × Nat))

def handle (s : S) (t : Tn) : Req → S × Resp
  | .insert lid v m ns => ((insert s t lid v m ns).1, .unit (insert s t lid v m ns).2)
  | .delete lid ns => ((delete s t lid ns).1, .bool (delete s t lid ns).2)
  | .update lid m mg ns => ((updateMeta s t lid m mg ns).1, .bool (updateMeta s t lid m mg ns).2)
  | .query lid ns => (s, .read (query s t lid ns))
  | .bulkQuery lids ns => (s, .reads (bulkQuery s t lids ns))
  | .bdIds lids ns => ((batchDeleteIds s t lids ns).1, .nat (batchDeleteIds s t lids ns).2)
  | .bulkInsert items => ((bulkInsert s t items).1, .counts (bulkInsert s t items).2.1 (bulkInsert s t items).2.2)
  | .bulkLoad items => ((bulkLoad s t items).1, .loaded (bulkLoad s t items).2)

/-! ### state builders and the view

Every write path is built from a few state builders (store / erase a document, set / lower / reserve a
count, note inserts / deletes).  Each comes in two forms: `ViewEq.x` (the same builder on both sides keeps
two states `a`-equivalent) and `ViewEq.rx` (a builder that acts outside `a`'s id range, or on another
tenant's counter, is invisible to `a`); for `setCount` the pair is `withCount` / `rsetCount` (`ViewEq.setCount`
would shadow `Srv.setCount` inside these statements).  The per-RPC lemmas below only compose them. -/

section builders
variable {a : Tn} {s1 s2 : S}

theorem ViewEq.store (h : ViewEq a s1 s2) (g : Nat) (d : Doc) :
    ViewEq a { s1 with docs := aset g d s1.docs } { s2 with docs := aset g d s2.docs } :=
  ⟨h.dim, fun g' hg' => by rw [alookup_aset, alookup_aset, h.docs g' hg'], h.cnt⟩

theorem ViewEq.erase (h : ViewEq a s1 s2) (g : Nat) :
    ViewEq a { s1 with docs := aerase g s1.docs } { s2 with docs := aerase g s2.docs } :=
  ⟨h.dim, fun g' hg' => by rw [alookup_aerase, alookup_aerase, h.docs g' hg'], h.cnt⟩

theorem ViewEq.withCount (h : ViewEq a s1 s2) {n : Nat} : ViewEq a (setCount s1 a n) (setCount s2 a n) :=
  ⟨h.dim, h.docs, by rw [count_setCount_self, count_setCount_self]⟩

theorem ViewEq.dec (h : ViewEq a s1 s2) (n : Nat) : ViewEq a (decCount s1 a n) (decCount s2 a n) :=
  ⟨by rw [dim_decCount, dim_decCount, h.dim], by rw [docs_decCount, docs_decCount]; exact h.docs,
   by rw [count_decCount_self, count_decCount_self, h.cnt]⟩

theorem ViewEq.reserve (h : ViewEq a s1 s2) {N : List Nat} : ViewEq a (reserve s1 a N) (reserve s2 a N) :=
  ⟨by rw [dim_reserve, dim_reserve, h.dim], by rw [docs_reserve, docs_reserve]; exact h.docs,
   by rw [count_reserve_self, count_reserve_self, h.cnt]⟩

theorem ViewEq.rstore (h : ViewEq a s1 s2) {b : Tn} (hab : a.idx ≠ b.idx) {g : Nat} (hg : g / limit32 = b.idx) {d : Doc} :
    ViewEq a s1 { s2 with docs := aset g d s2.docs } :=
  ⟨h.dim, fun g' hg' => (h.docs g' hg').trans (alookup_aset_ne (k := g) (j := g') fun e => hab (hg'.symm.trans (e ▸ hg))).symm, h.cnt⟩

theorem ViewEq.rerase (h : ViewEq a s1 s2) {b : Tn} (hab : a.idx ≠ b.idx) {g : Nat} (hg : g / limit32 = b.idx) :
    ViewEq a s1 { s2 with docs := aerase g s2.docs } :=
  ⟨h.dim, fun g' hg' => (h.docs g' hg').trans (alookup_aerase_ne (k := g) (j := g') fun e => hab (hg'.symm.trans (e ▸ hg))).symm, h.cnt⟩

theorem ViewEq.of_fields {s s' : S} (hd : s'.dim = s.dim) (hdocs : s'.docs = s.docs)
    (hc : count s' a = count s a) : ViewEq a s s' :=
  ⟨hd.symm, fun _ _ => by rw [hdocs], hc.symm⟩

theorem ViewEq.rsetCount (h : ViewEq a s1 s2) {b : Tn} (hab : a.idx ≠ b.idx) {n : Nat} :
    ViewEq a s1 (setCount s2 b n) :=
  h.trans (.of_fields rfl rfl (count_setCount_ne hab))

theorem ViewEq.rdec (h : ViewEq a s1 s2) {b : Tn} (hab : a.idx ≠ b.idx) (n : Nat) :
    ViewEq a s1 (decCount s2 b n) :=
  h.trans (.of_fields (dim_decCount ..) (docs_decCount ..) (count_decCount_ne hab))

theorem ViewEq.rreserve (h : ViewEq a s1 s2) {b : Tn} (hab : a.idx ≠ b.idx) {N : List Nat} :
    ViewEq a s1 (Srv.reserve s2 b N) :=
  h.trans (.of_fields (dim_reserve ..) (docs_reserve ..) (count_reserve_ne hab))

theorem ViewEq.rnoteIns (h : ViewEq a s1 s2) (t : Tn) (n : Nat) : ViewEq a s1 (noteInserts s2 t n) :=
  h.trans (.of_fields (dim_noteInserts ..) (docs_noteInserts ..) (count_noteInserts ..))

theorem ViewEq.rnoteDel (h : ViewEq a s1 s2) (t : Tn) (n : Nat) : ViewEq a s1 (noteDeletes s2 t n) :=
  h.trans (.of_fields (dim_noteDeletes ..) (docs_noteDeletes ..) (count_noteDeletes ..))

theorem ViewEq.noteIns (h : ViewEq a s1 s2) (t : Tn) (n : Nat) :
    ViewEq a (noteInserts s1 t n) (noteInserts s2 t n) :=
  ((ViewEq.refl a s1).rnoteIns t n).symm.trans (h.rnoteIns t n)

theorem ViewEq.noteDel (h : ViewEq a s1 s2) (t : Tn) (n : Nat) :
    ViewEq a (noteDeletes s1 t n) (noteDeletes s2 t n) :=
  ((ViewEq.refl a s1).rnoteDel t n).symm.trans (h.rnoteDel t n)

theorem ViewEq.fst_ite {ρ : Type} {s : S} {c : Prop} [Decidable c] {x y : S × ρ}
    (hx : ViewEq a s x.1) (hy : ViewEq a s y.1) : ViewEq a s (if c then x else y).1 :=
  Srv.fst_ite (fun _ => hx) fun _ => hy

end builders

theorem readDoc_view {a : Tn} {s1 s2 : S} (h : ViewEq a s1 s2) (lid : Nat) (ns : String) :
    readDoc s1 a lid ns = readDoc s2 a lid ns := by
  unfold readDoc
  split
  · rfl
  · rename_i g hg
    rw [h.docs g (gid_div hg)]

/-- two runs of a request agree for `a`: same answer, `a`-equivalent states afterwards -/
def Agree {ρ : Type} (a : Tn) (r1 r2 : S × ρ) : Prop := r1.2 = r2.2 ∧ ViewEq a r1.1 r2.1

theorem Agree.ite {ρ : Type} {a : Tn} {c : Prop} [Decidable c] {x1 y1 x2 y2 : S × ρ}
    (hx : Agree a x1 x2) (hy : Agree a y1 y2) : Agree a (if c then x1 else y1) (if c then x2 else y2) := by
  split <;> assumption

theorem Agree.map {ρ σ : Type} {a : Tn} {r1 r2 : S × ρ} (h : Agree a r1 r2) (f : ρ → σ) :
    Agree a (r1.1, f r1.2) (r2.1, f r2.2) := ⟨congrArg f h.1, h.2⟩

theorem atDoc_agree {a : Tn} {s1 s2 : S} (h : ViewEq a s1 s2) {g : Nat} (hg : g / limit32 = a.idx) {ns : String}
    {X1 X2 : Doc → S} (hX : ∀ d, ViewEq a (X1 d) (X2 d)) : Agree a (atDoc s1 a g ns X1) (atDoc s2 a g ns X2) := by
  unfold atDoc
  rw [h.docs g hg]
  cases alookup g s2.docs with
  | none => exact ⟨rfl, h⟩
  | some d => exact .ite ⟨rfl, h⟩ ⟨rfl, hX d⟩

theorem insertCore_view {a : Tn} {s1 s2 : S} (h : ViewEq a s1 s2) {g : Nat} (hg : g / limit32 = a.idx)
    (v : List Nat) (m : Meta) (ns : String) : Agree a (insertCore s1 a g v m ns) (insertCore s2 a g v m ns) := by
  -- every test `insertCore` makes reads the `a`-view, so both runs take the same branch
  rw [insertCore_eq, insertCore_eq, h.docs g hg, h.cnt]
  simp only [show (v.length = s1.dim) = (v.length = s2.dim) by rw [h.dim]]
  exact Agree.ite (.ite ⟨rfl, h.store g _⟩ ⟨rfl, h⟩)
    (.ite ⟨rfl, h⟩ (.ite ⟨rfl, (h.withCount.store g _).noteIns a 1⟩ ⟨rfl, h.withCount.dec 1⟩))

theorem deleteMany_view {a : Tn} (gs : List Nat) (hgs : ∀ g ∈ gs, g / limit32 = a.idx) :
    ∀ {s1 s2 : S}, ViewEq a s1 s2 → Agree a (deleteMany s1 gs) (deleteMany s2 gs) := by
  induction gs with
  | nil => intro s1 s2 h; exact ⟨rfl, h⟩
  | cons g rest ih =>
    intro s1 s2 h
    have hrest := fun x hx => hgs x (List.mem_cons_of_mem _ hx)
    unfold deleteMany
    rw [h.docs g (hgs g (List.mem_cons_self ..))]
    split
    · exact (ih hrest (h.erase g)).map (· + 1)
    · exact ih hrest h

theorem insert_view {a : Tn} {s1 s2 : S} (h : ViewEq a s1 s2) (lid : Nat) (v : List Nat) (m : Meta) (ns : String) :
    Agree a (insert s1 a lid v m ns) (insert s2 a lid v m ns) := by
  rcases insert_eq a lid v m ns with e | ⟨g, hg, e⟩
  · rw [e, e]; exact ⟨rfl, h⟩
  · rw [e, e]; exact insertCore_view h hg v m ns

theorem delete_view {a : Tn} {s1 s2 : S} (h : ViewEq a s1 s2) (lid : Nat) (ns : String) :
    Agree a (delete s1 a lid ns) (delete s2 a lid ns) := by
  rcases delete_eq a lid ns with e | ⟨g, hg, e⟩
  · rw [e, e]; exact ⟨rfl, h⟩
  · rw [e, e]; exact atDoc_agree h hg fun _ => ((h.erase g).dec 1).noteDel a 1

theorem updateMeta_view {a : Tn} {s1 s2 : S} (h : ViewEq a s1 s2) (lid : Nat) (m : Meta) (mg : Bool) (ns : String) :
    Agree a (updateMeta s1 a lid m mg ns) (updateMeta s2 a lid m mg ns) := by
  rcases updateMeta_eq a lid m mg ns with e | ⟨g, hg, e⟩
  · rw [e, e]; exact ⟨rfl, h⟩
  · rw [e, e]; exact atDoc_agree h hg fun _ => h.store g _

theorem batchDeleteIds_view {a : Tn} {s1 s2 : S} (h : ViewEq a s1 s2) (lids : List Nat) (ns : String) :
    Agree a (batchDeleteIds s1 a lids ns) (batchDeleteIds s2 a lids ns) := by
  -- the ids the tenant check lets through are the same in both states
  have hgs : (lids.filterMap (gid a)).filter (visibleAt s1 a ns) = (lids.filterMap (gid a)).filter (visibleAt s2 a ns) :=
    List.filter_congr fun g hg => by unfold visibleAt; rw [h.docs g (gid_filterMap_div hg)]
  obtain ⟨e1, e2⟩ := deleteMany_view ((lids.filterMap (gid a)).filter (visibleAt s2 a ns))
    (fun g hg => gid_filterMap_div (List.mem_filter.mp hg).1) h
  unfold batchDeleteIds
  simp only [hgs, e1]
  exact .ite ⟨rfl, h⟩ ⟨rfl, (e2.dec _).noteDel a _⟩

theorem bulkInsert_view {a : Tn} {s1 s2 : S} (h : ViewEq a s1 s2) (items : List Item) :
    Agree a (bulkInsert s1 a items) (bulkInsert s2 a items) := by
  induction items generalizing s1 s2 with
  | nil => exact ⟨rfl, h⟩
  | cons it rest ih =>
    obtain ⟨e1, e2⟩ := insert_view h it.lid it.vec it.md it.ns
    unfold bulkInsert
    simp only
    rw [e1]
    split
    · exact (ih e2).map fun c => (c.1 + 1, c.2)
    · exact (ih e2).map fun c => (c.1, c.2 + 1)

theorem loadAll_view {a : Tn} (B : List (Nat × List Nat × Meta)) :
    ∀ {s1 s2 : S}, ViewEq a s1 s2 → Agree a (loadAll s1 B) (loadAll s2 B) := by
  induction B with
  | nil => intro s1 s2 h; exact ⟨rfl, h⟩
  | cons b rest ih =>
    obtain ⟨g, v, m⟩ := b
    intro s1 s2 h
    unfold loadAll engineInsert
    by_cases hv : v.length = s1.dim
    · rw [if_pos hv, if_pos (h.dim ▸ hv)]
      exact (ih (h.store g ⟨v, m⟩)).map fun c => (c.1 + 1, c.2)
    · rw [if_neg hv, if_neg (h.dim ▸ hv)]
      exact (ih h).map fun c => (c.1, c.2 + 1)

theorem newIdsOf_view {a : Tn} {s1 s2 : S} (h : ViewEq a s1 s2) {B : List (Nat × List Nat × Meta)}
    (hB : ∀ b ∈ B, b.1 / limit32 = a.idx) : newIdsOf s1 B = newIdsOf s2 B := by
  unfold newIdsOf
  congr 1
  apply List.filter_congr
  intro g hg
  obtain ⟨b, hb, rfl⟩ := List.mem_map.mp hg
  rw [h.docs b.1 (hB b hb)]

theorem loadReserved_view {a : Tn} {s1 s2 : S} (h : ViewEq a s1 s2) (B : List (Nat × List Nat × Meta))
    {N : List Nat} (hN : ∀ g ∈ N, g / limit32 = a.idx) (n : Nat) :
    Agree a (loadReserved s1 a B N n) (loadReserved s2 a B N n) := by
  obtain ⟨r1, r2⟩ := loadAll_view B h
  have hnow : (N.filter fun g => (alookup g (loadAll s1 B).1.docs).isSome) =
      N.filter fun g => (alookup g (loadAll s2 B).1.docs).isSome :=
    List.filter_congr fun g hg => by rw [r2.docs g (hN g hg)]
  unfold loadReserved
  simp only [hnow, r1]
  exact ⟨rfl, (r2.dec _).noteIns a _⟩

theorem loadBatch_view {a : Tn} {s1 s2 : S} (h : ViewEq a s1 s2) {B : List (Nat × List Nat × Meta)}
    (hB : ∀ b ∈ B, b.1 / limit32 = a.idx) (n : Nat) : Agree a (loadBatch s1 a B n) (loadBatch s2 a B n) := by
  unfold loadBatch
  rw [newIdsOf_view h hB, h.cnt]
  refine .ite ⟨rfl, h⟩ (.ite ⟨rfl, h⟩ (loadReserved_view h.reserve B ?_ n))
  · intro g hg
    obtain ⟨b, hb, rfl⟩ := List.mem_map.mp (mem_newIdsOf.mp hg).1
    exact hB b hb

theorem bulkLoad_view {a : Tn} {s1 s2 : S} (h : ViewEq a s1 s2) (items : List Item) :
    Agree a (bulkLoad s1 a items) (bulkLoad s2 a items) := by
  obtain ⟨B, n, hB, e⟩ := bulkLoad_eq a items
  rw [e, e]
  exact loadBatch_view h (fun b hb => (hB b hb).1) n

/-- output consistency -/
theorem handle_view {a : Tn} {s1 s2 : S} (h : ViewEq a s1 s2) (r : Req) :
    (handle s1 a r).2 = (handle s2 a r).2 ∧ ViewEq a (handle s1 a r).1 (handle s2 a r).1 := by
  cases r with
  | insert lid v m ns => exact (insert_view h lid v m ns).map Resp.unit
  | delete lid ns => exact (delete_view h lid ns).map Resp.bool
  | update lid m mg ns => exact (updateMeta_view h lid m mg ns).map Resp.bool
  | query lid ns => exact ⟨by simp only [handle, query, readDoc_view h lid ns], h⟩
  | bulkQuery lids ns => exact ⟨by simp only [handle, bulkQuery, readDoc_view h _ ns], h⟩
  | bdIds lids ns => exact (batchDeleteIds_view h lids ns).map Resp.nat
  | bulkInsert items => exact (bulkInsert_view h items).map fun c => Resp.counts c.1 c.2
  | bulkLoad items => exact (bulkLoad_view h items).map Resp.loaded

theorem insertCore_respects {a b : Tn} (hab : a.idx ≠ b.idx) (s : S) {g : Nat} (hg : g / limit32 = b.idx)
    (v : List Nat) (m : Meta) (ns : String) : ViewEq a s (insertCore s b g v m ns).1 := by
  rw [insertCore_eq]
  -- the branches of `insertCore_eq` in order: overwrite ok / overwrite refused / quota refused / new ok / new refused
  exact .fst_ite (.fst_ite ((ViewEq.refl a s).rstore hab hg) (.refl a s))
    (.fst_ite (.refl a s) (.fst_ite ((((ViewEq.refl a s).rsetCount hab).rstore hab hg).rnoteIns b 1)
      (((ViewEq.refl a s).rsetCount hab).rdec hab 1)))

theorem insert_respects {a b : Tn} (hab : a.idx ≠ b.idx) (s : S) (lid : Nat) (v : List Nat) (m : Meta)
    (ns : String) : ViewEq a s (insert s b lid v m ns).1 := by
  rcases insert_eq b lid v m ns with e | ⟨g, hg, e⟩
  · rw [e]; exact .refl a s
  · rw [e]; exact insertCore_respects hab s hg v m ns

theorem delete_respects {a b : Tn} (hab : a.idx ≠ b.idx) (s : S) (lid : Nat) (ns : String) :
    ViewEq a s (delete s b lid ns).1 := by
  rcases delete_eq b lid ns with e | ⟨g, hg, e⟩
  · rw [e]; exact .refl a s
  · rw [e]; exact atDoc_fst (.refl a s) fun _ _ _ => (((ViewEq.refl a s).rerase hab hg).rdec hab 1).rnoteDel b 1

theorem updateMeta_respects {a b : Tn} (hab : a.idx ≠ b.idx) (s : S) (lid : Nat) (m : Meta) (mg : Bool)
    (ns : String) : ViewEq a s (updateMeta s b lid m mg ns).1 := by
  rcases updateMeta_eq b lid m mg ns with e | ⟨g, hg, e⟩
  · rw [e]; exact .refl a s
  · rw [e]; exact atDoc_fst (.refl a s) fun _ _ _ => (ViewEq.refl a s).rstore hab hg

theorem deleteMany_respects {a b : Tn} (hab : a.idx ≠ b.idx) {gs : List Nat} (hgs : ∀ g ∈ gs, g / limit32 = b.idx)
    (s : S) : ViewEq a s (deleteMany s gs).1 :=
  ⟨(deleteMany_frame gs s).1.symm,
   fun g' hg' => by rw [deleteMany_lookup, if_neg fun hm => hab (hg'.symm.trans (hgs g' hm))],
   (count_deleteMany gs s a).symm⟩

theorem bulkInsert_respects {a b : Tn} (hab : a.idx ≠ b.idx) (s : S) (items : List Item) :
    ViewEq a s (bulkInsert s b items).1 := by
  rw [bulkInsert_fst]
  exact List.foldlRecOn (motive := ViewEq a s) items _ (.refl a s) fun s' h it _ =>
    h.trans (insert_respects hab s' it.lid it.vec it.md it.ns)

theorem loadAll_respects {a b : Tn} (hab : a.idx ≠ b.idx) {B : List (Nat × List Nat × Meta)}
    (hB : ∀ x ∈ B, x.1 / limit32 = b.idx) {s : S} : ViewEq a s (loadAll s B).1 := by
  rw [loadAll_fst]
  refine List.foldlRecOn (motive := ViewEq a s) B _ (.refl a s) fun s' h x hx => ?_
  unfold engineInsert
  exact fst_ite (fun _ => h.rstore hab (hB x hx)) fun _ => h

theorem bulkLoad_respects {a b : Tn} (hab : a.idx ≠ b.idx) (s : S) (items : List Item) :
    ViewEq a s (bulkLoad s b items).1 := by
  obtain ⟨B, n, hB, e⟩ := bulkLoad_eq b items
  rw [e]
  unfold loadBatch
  refine .fst_ite (.refl a s) (.fst_ite (.refl a s) ?_)
  exact ((((ViewEq.refl a s).rreserve hab).trans
    (loadAll_respects hab fun x hx => (hB x hx).1)).rdec hab _).rnoteIns b _

theorem batchDeleteIds_respects {a b : Tn} (hab : a.idx ≠ b.idx) (s : S) (lids : List Nat) (ns : String) :
    ViewEq a s (batchDeleteIds s b lids ns).1 := by
  -- `fst_ite` applies to the un-unfolded RPC: its `let (s', n) := deleteMany …` reduces by structure eta
  exact .fst_ite (.refl a s)
    (((deleteMany_respects hab (fun _ hg => gid_filterMap_div (List.mem_filter.mp hg).1) s).rdec hab _).rnoteDel b _)

/-- local respect -/
theorem handle_respects {a b : Tn} (hab : a.idx ≠ b.idx) (s : S) (r : Req) : ViewEq a s (handle s b r).1 := by
  cases r with
  | insert lid v m ns => exact insert_respects hab s lid v m ns
  | delete lid ns => exact delete_respects hab s lid ns
  | update lid m mg ns => exact updateMeta_respects hab s lid m mg ns
  | query lid ns => exact .refl a s
  | bulkQuery lids ns => exact .refl a s
  | bdIds lids ns => exact batchDeleteIds_respects hab s lids ns
  | bulkInsert items => exact bulkInsert_respects hab s items
  | bulkLoad items => exact bulkLoad_respects hab s items

/-- **Frame**: no request of `b` changes any point read of a tenant with another index -/
theorem handle_frame {a b : Tn} (hab : a.idx ≠ b.idx) (s : S) (r : Req) (la : Nat) (ns : String) :
    readDoc (handle s b r).1 a la ns = readDoc s a la ns :=
  (readDoc_view (handle_respects hab s r) la ns).symm

/-! ### `BatchDelete` by filter

Unlike the id-addressed RPCs, a filter delete walks the WHOLE shared document list, so output consistency
needs the reachable-state invariant `Inv` (unique ids, every document stored in the id range of the tenant
whose index it carries): under it the set of documents a filter of tenant `a` selects is a function of
`a`'s view only. -/

theorem selected_view (parse : String → Option Nat) {ts : List Tn} (hts : Tenants ts) {a : Tn} (ha : a ∈ ts)
    {s1 s2 : S} (h1 : Inv ts s1) (h2 : Inv ts s2) (hv : ViewEq a s1 s2) (f : Filter) (ns : String) (g : Nat) :
    g ∈ selected parse s1 a f ns ↔ g ∈ selected parse s2 a f ns := by
  have one : ∀ {s1 s2 : S}, Inv ts s1 → Inv ts s2 → ViewEq a s1 s2 →
      g ∈ selected parse s1 a f ns → g ∈ selected parse s2 a f ns := fun h1 h2 hv hg => by
    obtain ⟨d, hd, hP⟩ := (mem_selected parse h1.keys a f ns g).mp hg
    exact (mem_selected parse h2.keys a f ns g).mpr
      ⟨d, hv.docs g (selected_in_range parse hts h1 ha f ns g hg) ▸ hd, hP⟩
  exact ⟨one h1 h2 hv, one h2 h1 hv.symm⟩

theorem batchDeleteFilter_view (parse : String → Option Nat) {ts : List Tn} (hts : Tenants ts) {a : Tn} (ha : a ∈ ts)
    {s1 s2 : S} (h1 : Inv ts s1) (h2 : Inv ts s2) (hv : ViewEq a s1 s2) (f : Filter) (ns : String) :
    Agree a (batchDeleteFilter parse s1 a f ns) (batchDeleteFilter parse s2 a f ns) := by
  have hmem := selected_view parse hts ha h1 h2 hv f ns
  -- the two runs delete the same set of ids (possibly in another order), all of them present
  have hc : (deleteMany s1 (selected parse s1 a f ns)).2 = (deleteMany s2 (selected parse s2 a f ns)).2 := by
    rw [deleteMany_selected parse h1.keys, deleteMany_selected parse h2.keys]
    exact ((List.perm_ext_iff_of_nodup (nodup_selected parse h1.keys a f ns)
      (nodup_selected parse h2.keys a f ns)).mpr hmem).length_eq
  have hD : ViewEq a (deleteMany s1 (selected parse s1 a f ns)).1 (deleteMany s2 (selected parse s2 a f ns)).1 :=
    ⟨by rw [(deleteMany_frame _ s1).1, (deleteMany_frame _ s2).1]; exact hv.dim,
     fun g' hg' => by simp only [deleteMany_lookup, hv.docs g' hg', hmem g'],
     by rw [count_deleteMany, count_deleteMany]; exact hv.cnt⟩
  rw [batchDeleteFilter_eq, batchDeleteFilter_eq, hc]
  exact .ite ⟨rfl, hv⟩ ⟨rfl, (hD.dec _).noteDel a _⟩

theorem batchDeleteFilter_respects (parse : String → Option Nat) {ts : List Tn} (hts : Tenants ts) {a b : Tn}
    (hb : b ∈ ts) (hab : a.idx ≠ b.idx) {s : S} (hi : Inv ts s) (f : Filter) (ns : String) :
    ViewEq a s (batchDeleteFilter parse s b f ns).1 :=
  fst_ite (fun _ => .refl a s) fun _ =>
    ((deleteMany_respects hab (selected_in_range parse hts hi hb f ns) s).rdec hab _).rnoteDel b _

/-- `Req` plus `BatchDelete` by filter, which reads the whole document list and so needs `Inv` -/
inductive ReqF
  | base (r : Req)
  | bdFilter (f : Filter) (ns : String)

def handleF (parse : String → Option Nat) (s : S) (t : Tn) : ReqF → S × Resp
  | .base r => handle s t r
  | .bdFilter f ns => ((batchDeleteFilter parse s t f ns).1, .nat (batchDeleteFilter parse s t f ns).2)

theorem handleF_view (parse : String → Option Nat) {ts : List Tn} (hts : Tenants ts) {a : Tn} (ha : a ∈ ts)
    {s1 s2 : S} (h1 : Inv ts s1) (h2 : Inv ts s2) (hv : ViewEq a s1 s2) (r : ReqF) :
    (handleF parse s1 a r).2 = (handleF parse s2 a r).2 ∧ ViewEq a (handleF parse s1 a r).1 (handleF parse s2 a r).1 := by
  cases r with
  | base r => exact handle_view hv r
  | bdFilter f ns => exact (batchDeleteFilter_view parse hts ha h1 h2 hv f ns).map Resp.nat

theorem handleF_respects (parse : String → Option Nat) {ts : List Tn} (hts : Tenants ts) {a b : Tn} (hb : b ∈ ts)
    (hab : a.idx ≠ b.idx) {s : S} (hi : Inv ts s) (r : ReqF) : ViewEq a s (handleF parse s b r).1 := by
  cases r with
  | base r => exact handle_respects hab s r
  | bdFilter f ns => exact batchDeleteFilter_respects parse hts hb hab hi f ns

/-- every request keeps the quota invariant: the per-RPC statements are the theorems of C14 -/
theorem handleF_inv (parse : String → Option Nat) {ts : List Tn} (hts : Tenants ts) {s : S} (hi : Inv ts s) {t : Tn}
    (ht : t ∈ ts) (r : ReqF) : Inv ts (handleF parse s t r).1 := by
  cases r with
  | base r =>
    cases r with
    | insert lid v m ns => exact C14.C14_insert_exact hts hi ht lid v m ns
    | delete lid ns => exact C14.C14_delete_exact hts hi ht lid ns
    | update lid m mg ns => exact C14.C14_update_exact hts hi ht lid m mg ns
    | query lid ns => exact hi
    | bulkQuery lids ns => exact hi
    | bdIds lids ns => exact C14.C14_batchDeleteIds_exact hts hi ht lids ns
    | bulkInsert items => exact C14.C14_bulkInsert_exact hts hi ht items
    | bulkLoad items => exact C14.C14_bulkLoad_exact hts hi ht items
  | bdFilter f ns => exact C14.C14_batchDeleteFilter_exact parse hts hi ht f ns

end KyroModel.Srv
