/-
`OrderedF64::from_f64` is strictly monotone for the model's `f64lt` and injective modulo `f64eq`,
for every bit pattern — the fact that makes a `BTreeMap<OrderedF64, _>` range scan equal the
float comparison `metadata_filter::matches_range` performs.  (NaN matters only for what the
comparison means: `Bound.cmpNum` answers `false` before it compares.)

Both comparisons and the key read only bit 63 (the sign) and the 63 bits below it (the magnitude) of
a bit pattern; `f64val` is that reading.  `f64lt` / `f64eq` are `<` / `=` on it, and the key is a
strictly increasing function of it (`keyOfVal`).  In each proof the sign (`0` or `1`) and the
magnitude (`< 2^63`) are generalised to variables.
-/
import KyroModel.Store.Filter

namespace KyroModel

/-- `2^63` under a name.  Stated once, it is an atom for `omega` and `simp`; written out, each
    occurrence is slow to elaborate, and `omega` is several times slower on numerals of this size. -/
def signBit : Nat := 2 ^ 63

theorem two_pow_63 : (2 : Nat) ^ 63 = signBit := rfl
theorem two_pow_64 : (2 : Nat) ^ 64 = signBit * 2 := rfl
theorem signBit_pos : 0 < signBit := Nat.two_pow_pos 63

/-- A bit pattern read as sign and magnitude (`-0 = +0`; bits above 63 are ignored). -/
def f64val (a : Nat) : Int :=
  if a / signBit % 2 = 0 then (a % signBit : Nat) else -(a % signBit : Nat)

theorem f64cmp_val (a b : Nat) :
    (f64lt a b = true ↔ f64val a < f64val b) ∧ (f64eq a b = true ↔ f64val a = f64val b) := by
  unfold f64lt f64eq f64val
  -- the low 64 bits are magnitude + 2^63 · sign
  rw [two_pow_64, two_pow_63, Nat.mod_mul (x := a), Nat.mod_mul (x := b)]
  have hsa := Nat.mod_two_eq_zero_or_one (a / signBit)
  have hsb := Nat.mod_two_eq_zero_or_one (b / signBit)
  have hma := Nat.mod_lt a signBit_pos
  have hmb := Nat.mod_lt b signBit_pos
  generalize a / signBit % 2 = sa at *
  generalize b / signBit % 2 = sb at *
  generalize a % signBit = ma at *
  generalize b % signBit = mb at *
  rcases hsa with rfl | rfl <;> rcases hsb with rfl | rfl <;> simp <;> omega

/-- The key as a function of the value: non-negative values go to `[2^63, 2^64)`, negative ones
    below, each half in order. -/
def keyOfVal (v : Int) : Int := if 0 ≤ v then signBit + v else signBit - 1 + v

theorem keyOfVal_lt {v w : Int} (h : v < w) : keyOfVal v < keyOfVal w := by
  unfold keyOfVal; split <;> split <;> omega

/-- a strictly increasing function reflects `<` and `=` -/
theorem keyOfVal_iff (v w : Int) :
    (v < w ↔ keyOfVal v < keyOfVal w) ∧ (v = w ↔ keyOfVal v = keyOfVal w) := by
  rcases Int.lt_trichotomy v w with h | rfl | h
  · exact ⟨iff_of_true h (keyOfVal_lt h), iff_of_false (Int.ne_of_lt h) (Int.ne_of_lt (keyOfVal_lt h))⟩
  · exact ⟨iff_of_false (Int.lt_irrefl _) (Int.lt_irrefl _), iff_of_true rfl rfl⟩
  · exact ⟨iff_of_false (Int.lt_asymm h) (Int.lt_asymm (keyOfVal_lt h)),
      iff_of_false (Int.ne_of_gt h) (Int.ne_of_gt (keyOfVal_lt h))⟩

theorem orderedKey_val (a : Nat) : (orderedKey a : Int) = keyOfVal (f64val a) := by
  unfold orderedKey f64val keyOfVal
  rw [two_pow_64, two_pow_63, Nat.mod_mul (x := a)]
  have hs := Nat.mod_two_eq_zero_or_one (a / signBit)
  have hm := Nat.mod_lt a signBit_pos
  generalize a / signBit % 2 = s at *
  generalize a % signBit = m at *
  -- the sign of the canonicalised word: `-0` has become `+0`
  have d0 : m / signBit = 0 := Nat.div_eq_of_lt hm
  have d1 : (m + signBit) / signBit = 1 := by rw [Nat.add_div_right _ signBit_pos, d0]
  by_cases h0 : m = 0 <;> rcases hs with rfl | rfl <;> simp [h0, d0, d1] <;> omega

theorem orderedKey_strictMono (a b : Nat) :
    (f64lt a b = true ↔ orderedKey a < orderedKey b) ∧
    (f64eq a b = true ↔ orderedKey a = orderedKey b) := by
  rw [(f64cmp_val a b).1, (f64cmp_val a b).2, (keyOfVal_iff _ _).1, (keyOfVal_iff _ _).2,
    ← orderedKey_val a, ← orderedKey_val b]
  exact ⟨Int.ofNat_lt, Int.ofNat_inj⟩

end KyroModel
