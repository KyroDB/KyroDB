/-
BulkLoadHnsw preserves the quota invariant: the reservation of the new ids minus the released part
equals the number of documents that actually appeared.
-/
import KyroModel.Lemmas.TenantInv

namespace KyroModel.Srv

theorem mem_dedupNat (l : List Nat) (x : Nat) : x ∈ dedupNat l ↔ x ∈ l := by
  induction l with
  | nil => simp [dedupNat]
  | cons a rest ih =>
    unfold dedupNat
    split
    · rename_i hc
      rw [ih, List.mem_cons, or_iff_right_of_imp]
      rintro rfl
      simpa using hc
    · simp only [List.mem_cons, ih]

theorem mem_newIdsOf {s : S} {B : List (Nat × List Nat × Meta)} {g : Nat} :
    g ∈ newIdsOf s B ↔ g ∈ B.map (·.1) ∧ (alookup g s.docs).isSome = false := by
  simp only [newIdsOf, mem_dedupNat, List.mem_filter, Bool.not_eq_true']

theorem nodup_dedupNat {l : List Nat} : (dedupNat l).Nodup := by
  induction l with
  | nil => exact List.nodup_nil
  | cons a rest ih =>
    unfold dedupNat
    split
    · exact ih
    · rename_i hc
      rw [List.nodup_cons]
      refine ⟨?_, ih⟩
      rw [mem_dedupNat]
      simpa using hc

/-- the census is a function of the key set: this is what lets the load be counted by ids -/
theorem cnt_eq_range {ts : List Tn} (hts : Tenants ts) {docs : List (Nat × Doc)}
    (howned : ∀ p ∈ docs, ∃ t ∈ ts, p.1 / limit32 = t.idx ∧ matchT t p.2 = true) {t : Tn} (ht : t ∈ ts) :
    cnt t docs = ((akeys docs).filter (ownsGid t)).length := by
  unfold cnt akeys
  rw [List.filter_map, List.length_map]
  congr 1
  apply List.filter_congr
  intro p hp
  obtain ⟨t0, ht0, h1, h2⟩ := howned p hp
  rw [matchT_eq hts ht0 ht h2]
  by_cases e : t = t0
  · simp [e, ownsGid, h1]
  · simpa [e, ownsGid, h1] using idx_ne hts ht0 ht (Ne.symm e)

/-- what `bulk_load_cold_tier` keeps true of the state `r` it has reached from `s` over the batch `B` -/
structure Loaded (ts : List Tn) (s : S) (B : List (Nat × List Nat × Meta)) (r : S) : Prop where
  ok : DocsOk ts r.docs
  counts : r.counts = s.counts
  mono : ∀ g, g ∈ akeys s.docs → g ∈ akeys r.docs
  fresh : ∀ g, g ∈ akeys r.docs → g ∈ akeys s.docs ∨ g ∈ B.map (·.1)

theorem loadAll_facts {ts : List Tn} {t : Tn} (ht : t ∈ ts) {B : List (Nat × List Nat × Meta)} (s : S)
    (hB : ∀ b ∈ B, b.1 / limit32 = t.idx ∧ matchT t ⟨b.2.1, b.2.2⟩ = true) (hs : DocsOk ts s.docs) :
    Loaded ts s B (loadAll s B).1 := by
  rw [loadAll_fst]
  refine List.foldlRecOn (motive := Loaded ts s B) B _ ⟨hs, rfl, fun _ h => h, fun _ h => .inl h⟩ fun r h b hb => ?_
  unfold engineInsert
  refine fst_ite (fun _ => ?_) fun _ => h
  exact ⟨h.ok.store ht (hB b hb).1 (hB b hb).2, h.counts,
    fun g hg => (mem_akeys_aset b.1 g _).mpr (.inr (h.mono g hg)),
    fun g hg => ((mem_akeys_aset b.1 g _).mp hg).elim (fun e => .inr (e ▸ List.mem_map.mpr ⟨b, hb, rfl⟩)) (h.fresh g)⟩

/-- census by key sets: when the ids of `docs'` are those of `docs` and the fresh ids `N` of `t`'s range, `t`'s census
    has grown by `N.length` and nobody else's has moved -/
theorem cnt_of_keys {ts : List Tn} (hts : Tenants ts) {docs docs' : List (Nat × Doc)} (hs : DocsOk ts docs)
    (hr : DocsOk ts docs') {t : Tn} (ht : t ∈ ts) {N : List Nat} (hN : N.Nodup) (hrange : ∀ g ∈ N, g / limit32 = t.idx)
    (hmem : ∀ g, g ∈ akeys docs' ↔ g ∈ akeys docs ∨ g ∈ N) (hdisj : ∀ g ∈ N, g ∉ akeys docs) {t' : Tn} (ht' : t' ∈ ts) :
    cnt t' docs' = cnt t' docs + if t' = t then N.length else 0 := by
  have hperm : (akeys docs').Perm (akeys docs ++ N) :=
    (List.perm_ext_iff_of_nodup hr.keys (List.nodup_append.mpr ⟨hs.keys, hN, fun a ha b hb e => hdisj b hb (e ▸ ha)⟩)).mpr
      fun g => (hmem g).trans List.mem_append.symm
  rw [cnt_eq_range hts hr.owned ht', (hperm.filter _).length_eq, List.filter_append, List.length_append,
    ← cnt_eq_range hts hs.owned ht']
  by_cases he : t' = t
  · subst he
    rw [if_pos rfl, List.filter_eq_self.mpr fun g hg => by simp [ownsGid, hrange g hg]]
  · rw [if_neg he, List.filter_eq_nil_iff.mpr fun g hg => by
      simpa [ownsGid, hrange g hg] using idx_ne hts ht ht' fun e => he e.symm]
    rfl

theorem loadBatch_inv {ts : List Tn} (hts : Tenants ts) {s : S} (hi : Inv ts s) {t : Tn} (ht : t ∈ ts)
    {B : List (Nat × List Nat × Meta)} (hB : ∀ b ∈ B, b.1 / limit32 = t.idx ∧ matchT t ⟨b.2.1, b.2.2⟩ = true)
    (n : Nat) : Inv ts (loadBatch s t B n).1 := by
  unfold loadBatch
  refine fst_ite (fun _ => hi) fun _ => fst_ite (fun _ => hi) fun hq => ?_
  obtain ⟨hok, hcounts, hmono, hfresh⟩ :=
    loadAll_facts ht (reserve s t (newIdsOf s B)) hB (by rw [docs_reserve]; exact hi.docsOk)
  unfold loadReserved
  dsimp only
  generalize (loadAll (reserve s t (newIdsOf s B)) B).1 = r at hok hcounts hmono hfresh ⊢
  rw [docs_reserve] at hmono hfresh
  have hrcount : ∀ t', count r t' = count (reserve s t (newIdsOf s B)) t' := fun t' => by unfold count; rw [hcounts]
  -- the ids that appeared: N, in `t`'s range, and `keys r = keys s ⊔ N`
  generalize hN : ((newIdsOf s B).filter fun g => (alookup g r.docs).isSome) = N
  have hNle : N.length ≤ (newIdsOf s B).length := hN ▸ List.length_filter_le _ _
  have hNmem : ∀ g, g ∈ N ↔ (g ∈ B.map (·.1) ∧ g ∉ akeys s.docs) ∧ g ∈ akeys r.docs := by
    intro g
    rw [← hN, List.mem_filter, mem_newIdsOf, mem_akeys_iff, mem_akeys_iff, ← Option.isSome_iff_exists,
      ← Option.isSome_iff_exists, Bool.not_eq_true]
  have hNnodup : N.Nodup := hN ▸ nodup_dedupNat.sublist List.filter_sublist
  have hNrange : ∀ g ∈ N, g / limit32 = t.idx := fun g hg => by
    obtain ⟨b, hb, rfl⟩ := List.mem_map.mp ((hNmem g).mp hg).1.1
    exact (hB b hb).1
  have hkeys : ∀ g, g ∈ akeys r.docs ↔ g ∈ akeys s.docs ∨ g ∈ N := fun g =>
    ⟨fun hg => (Classical.em (g ∈ akeys s.docs)).imp id fun hn =>
        (hNmem g).mpr ⟨⟨(hfresh g hg).resolve_left hn, hn⟩, hg⟩,
      fun hg => hg.elim (hmono g) fun h => ((hNmem g).mp h).2⟩
  have hdisj : ∀ g ∈ N, g ∉ akeys s.docs := fun g hg => ((hNmem g).mp hg).1.2
  have hcen := fun t' => cnt_of_keys hts hi.docsOk hok ht hNnodup hNrange hkeys hdisj (t' := t')
  refine inv_of_census (t := t) hi N.length 0 (by rw [docs_noteInserts, docs_decCount]; exact hok)
    (fun t' ht' => by rw [docs_noteInserts, docs_decCount, hcen t' ht', ite_self, Nat.add_zero]) ?_ ?_ ?_
  · rw [count_noteInserts, count_decCount_self, hrcount, count_reserve_self]; omega
  · intro t' ht' he
    rw [count_noteInserts, count_decCount_ne (idx_ne hts ht' ht he), hrcount, count_reserve_ne (idx_ne hts ht' ht he)]
  · rw [count_noteInserts, count_decCount_self, hrcount, count_reserve_self]
    have : ¬ t.maxv < count s t + (newIdsOf s B).length := hq
    omega

end KyroModel.Srv
