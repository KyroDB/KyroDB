/-
Invariant of the periodic-fsync protocol (with the outgoing segment synced) and the shape of every
power-loss outcome.
-/
import KyroModel.Persist.Periodic

namespace KyroModel.Periodic

def total (gs : List Seg) : Nat := (gs.map (·.len)).sum

@[simp] theorem total_nil : total [] = 0 := rfl
@[simp] theorem total_cons (g : Seg) (gs : List Seg) : total (g :: gs) = g.len + total gs := rfl
theorem total_append (a b : List Seg) : total (a ++ b) = total a + total b := by
  simp [total, List.sum_append]
theorem total_map_fullSync (gs : List Seg) : total (gs.map fullSync) = total gs := by
  induction gs with
  | nil => rfl
  | cons g gs ih => simp [fullSync, ih]

/-- what holds of every reachable state when the outgoing segment is synced (`fix = true`) -/
structure Inv (s : St) : Prop where
  /-- a retired segment is wholly on disk -/
  oldSynced : ∀ g ∈ s.old, g.synced = g.len
  /-- no more is synced than was written -/
  actOk : s.act.synced ≤ s.act.len
  /-- the segments cut the acknowledged log exactly -/
  lens : total s.old + s.act.len = s.log.length
  /-- what the last tick covered is on disk -/
  covered : s.coveredAtTick ≤ total s.old + s.act.synced
  /-- what the last tick did not cover was acknowledged after it -/
  late : ∀ i (h : i < s.log.length), s.coveredAtTick ≤ i → s.lastTick ≤ (s.log[i]).1
  /-- the last tick is not in the future -/
  tickPast : s.lastTick ≤ s.now

theorem inv_init (iv : Nat) (rot : Bool) : Inv { iv := iv, rot := rot, fix := true } where
  oldSynced := fun _ h => nomatch h
  actOk := Nat.le_refl _
  lens := rfl
  covered := Nat.le_refl _
  late := fun i h => absurd h (Nat.not_lt_zero i)
  tickPast := Nat.le_refl _

theorem total_retired (old : List Seg) (a : Seg) :
    total (old.map fullSync ++ [fullSync a]) = total old + a.len := by
  rw [total_append, total_map_fullSync]
  simp [fullSync]

/-- what every event preserves: `Inv`, for the protocol that syncs the outgoing segment -/
def Good (s : St) : Prop := s.fix = true ∧ Inv s

theorem inv_retire {s : St} (h : Good s) : Good (retire s) := by
  obtain ⟨hf, h⟩ := h
  unfold retire
  simp only [hf, if_true]
  refine ⟨rfl, { oldSynced := ?_, actOk := Nat.le_refl _, lens := ?_, covered := ?_,
                 late := h.late, tickPast := h.tickPast }⟩
  · intro g hg
    rcases List.mem_append.mp hg with hg | hg
    · obtain ⟨g0, _, rfl⟩ := List.mem_map.mp hg
      rfl
    · cases List.mem_singleton.mp hg
      rfl
  · exact (total_retired s.old s.act).symm ▸ h.lens
  · exact (total_retired s.old s.act).symm ▸ Nat.le_trans h.covered (Nat.add_le_add_left h.actOk _)

theorem inv_ite_retire {s : St} {c : Prop} [Decidable c] (h : Good s) :
    Good (if c then retire s else s) := by
  split
  · exact inv_retire h
  · exact h

/-- the state after a write and the writer's own interval check, before a rotation: the active
    segment `a` is one frame longer and no less synced -/
theorem inv_write {s : St} (h : Inv s) (w : WOp) {a : Seg} (hl : a.len = s.act.len + 1)
    (hs : s.act.synced ≤ a.synced) (hle : a.synced ≤ a.len) :
    Inv { s with act := a, log := s.log ++ [(s.now, w)] } := by
  refine ⟨h.oldSynced, hle, ?_, Nat.le_trans h.covered (Nat.add_le_add_left hs _), ?_, h.tickPast⟩
  · show total s.old + a.len = (s.log ++ [(s.now, w)]).length
    rw [hl, List.length_append, ← h.lens]
    rfl
  · intro i hi hc
    show s.lastTick ≤ ((s.log ++ [(s.now, w)])[i]).1
    by_cases hlt : i < s.log.length
    · rw [List.getElem_append_left hlt]
      exact h.late i hlt hc
    · rw [List.getElem_append_right (Nat.le_of_not_lt hlt), List.getElem_singleton]
      exact h.tickPast

theorem inv_append {s : St} (h : Good s) {w : WOp} : Good (append s w) := by
  have := h.2.actOk
  refine inv_ite_retire ⟨h.1, inv_write h.2 w ?_ ?_ ?_⟩
  · split <;> rfl
  · split
    · exact Nat.le_succ_of_le this
    · exact Nat.le_refl _
  · split
    · exact Nat.le_refl _
    · exact Nat.le_succ_of_le this

theorem inv_step {s : St} (h : Good s) (e : Ev) : Good (step s e) := by
  cases e with
  | ins id x => exact inv_append h
  | del id =>
    simp only [step]
    split
    · exact inv_append h
    · exact h
  | advance ms =>
    obtain ⟨hf, h⟩ := h
    exact ⟨hf, { h with tickPast := Nat.le_trans h.tickPast (Nat.le_add_right _ _) }⟩
  | tick =>
    obtain ⟨hf, h⟩ := h
    exact ⟨hf, { oldSynced := h.oldSynced, actOk := Nat.le_refl _, lens := h.lens,
                 covered := Nat.le_of_eq h.lens.symm,
                 late := fun i hi hc => absurd hi (Nat.not_lt.mpr hc), tickPast := Nat.le_refl _ }⟩
  | restart => exact inv_retire h

theorem inv_reachable (iv : Nat) (rot : Bool) (evs : List Ev) :
    Inv (run { iv := iv, rot := rot, fix := true } evs) :=
  (List.foldlRecOn (motive := Good) evs step ⟨rfl, inv_init iv rot⟩ fun _ hs e _ => inv_step hs e).2

/-- when all retired segments are synced, every admissible choice keeps a prefix of the log -/
theorem kept_prefix {old : List Seg} (hold : ∀ g ∈ old, g.synced = g.len) (a : Seg) :
    ∀ (ks : List Nat) (L : List WOp), Admissible (old ++ [a]) ks →
      ∃ k, a.synced ≤ k ∧ k ≤ a.len ∧ kept (old ++ [a]) ks L = L.take (total old + k) := by
  induction old with
  | nil =>
    intro ks L hA
    cases ks with
    | nil => exact False.elim hA
    | cons k ks' =>
      obtain ⟨h1, h2, hA'⟩ := hA
      cases ks' with
      | cons _ _ => exact False.elim hA'
      | nil =>
        refine ⟨k, h1, h2, ?_⟩
        show (L.take a.len).take k ++ [] = L.take (0 + k)
        rw [List.append_nil, List.take_take, Nat.min_eq_left h2, Nat.zero_add]
  | cons g gs ih =>
    intro ks L hA
    cases ks with
    | nil => exact False.elim hA
    | cons k0 ks' =>
      obtain ⟨hk1, hk2, hA'⟩ := hA
      -- a synced segment is kept whole
      have hk0 : k0 = g.len := Nat.le_antisymm hk2 (hold g (List.mem_cons_self ..) ▸ hk1)
      obtain ⟨k, h1, h2, h3⟩ := ih (fun x hx => hold x (List.mem_cons_of_mem _ hx)) ks' (L.drop g.len) hA'
      refine ⟨k, h1, h2, ?_⟩
      show (L.take g.len).take k0 ++ kept (gs ++ [a]) ks' (L.drop g.len) = L.take (total (g :: gs) + k)
      rw [h3, hk0, List.take_take, Nat.min_self, total_cons, Nat.add_assoc]
      exact List.take_add.symm

theorem mem_choices {gs : List Seg} : ∀ (ks : List Nat), ks ∈ choices gs ↔ Admissible gs ks := by
  induction gs with
  | nil =>
    intro ks
    cases ks <;> simp [choices, Admissible]
  | cons g gs ih =>
    intro ks
    cases ks with
    | nil => simp [choices, Admissible]
    | cons k ks' =>
      simp only [choices, List.mem_flatMap, List.mem_filter, List.mem_range, decide_eq_true_eq, List.mem_map,
        Admissible]
      constructor
      · rintro ⟨k', ⟨hk1, hk2⟩, ks'', hks, heq⟩
        cases heq
        exact ⟨hk2, Nat.le_of_lt_succ hk1, (ih ks').mp hks⟩
      · rintro ⟨h1, h2, h3⟩
        exact ⟨k, ⟨Nat.lt_succ_of_le h2, h1⟩, ks', (ih ks').mpr h3, rfl⟩

end KyroModel.Periodic
