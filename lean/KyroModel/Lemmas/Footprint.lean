/-
The footprint of the read paths.  Point reads, bulk reads and the background audit differ in what
they answer, but they do the same few things to the state: they use the document cache through
`get` / `insert` / `invalidate` and drop mirror entries (the ghost counter `qcClears` may move; no
theorem here speaks of it).  `Scrub s s'` says that; every "reads do not …" fact (canonical store
untouched, mirror not grown, mirror ⊆ canonical kept, cache invariants kept) is a field of it or
one line from it.  `Quiet` is the part of it that most write paths share.  The read functions
themselves are walked through in Lemmas/Canonical.
-/
import KyroModel.Tiered.Ops

namespace KyroModel
section
variable {D : Type}

/-- `P` is kept by the three calls through which the engine uses the document cache. -/
structure L1Closed (P : L1a D → Prop) : Prop where
  get : ∀ l id, P l → P (l.get id).1
  insert : ∀ l id e, P l → P (l.insert id e)
  invalidate : ∀ l id, P l → P (l.invalidate id)

/-- `l'` comes from `l` through those three calls (whatever they keep is kept). -/
structure L1Api (l l' : L1a D) : Prop where
  keeps : ∀ {P : L1a D → Prop}, L1Closed P → P l → P l'

theorem L1Api.refl (l : L1a D) : L1Api l l := ⟨fun _ h => h⟩

theorem L1Api.trans {a b c : L1a D} (h1 : L1Api a b) (h2 : L1Api b c) : L1Api a c :=
  ⟨fun hc h => h2.keeps hc (h1.keeps hc h)⟩

theorem L1Api.get (l : L1a D) (id : Nat) : L1Api l (l.get id).1 := ⟨fun hc => hc.get _ _⟩

theorem L1Api.insert (l : L1a D) (id : Nat) (e : CEntry D) : L1Api l (l.insert id e) :=
  ⟨fun hc => hc.insert _ _ _⟩

theorem L1Api.invalidate (l : L1a D) (id : Nat) : L1Api l (l.invalidate id) :=
  ⟨fun hc => hc.invalidate _ _⟩

theorem L1Api.foldl_invalidate {α : Type} (f : α → Nat) (xs : List α) (l : L1a D) :
    L1Api l (xs.foldl (fun l x => l.invalidate (f x)) l) :=
  ⟨fun hc h => List.foldlRecOn xs _ h fun l hl x _ => hc.invalidate l (f x) hl⟩

/-- Every mirrored document has a canonical record. -/
def HotSubCold (s : TState D) : Prop := ∀ id, id ∈ akeys s.hot → id ∈ akeys s.cold

/-- What every operation except `insert` and the harness's plant into the mirror respects:
    configuration kept, document cache used through its API only, mirror not grown. -/
structure Quiet (s s' : TState D) : Prop where
  cfg : s'.cfg = s.cfg
  hot : s'.hot.length ≤ s.hot.length
  l1a : L1Api s.l1a s'.l1a

/-- What a read path may do to the state. -/
structure Scrub (s s' : TState D) : Prop where
  cold : s'.cold = s.cold
  cfg : s'.cfg = s.cfg
  hot : s'.hot.Sublist s.hot   -- entries are only dropped: gives both "not longer" and "keys ⊆"
  l1a : L1Api s.l1a s'.l1a

theorem Scrub.refl (s : TState D) : Scrub s s := ⟨rfl, rfl, .refl _, .refl _⟩

theorem Scrub.trans {a b c : TState D} (h1 : Scrub a b) (h2 : Scrub b c) : Scrub a c :=
  ⟨h2.cold.trans h1.cold, h2.cfg.trans h1.cfg, h2.hot.trans h1.hot,
   h1.l1a.trans h2.l1a⟩

theorem Scrub.of_eq {α : Type} {s s' : TState D} {r : TState D × α} {x : α} (h : Scrub s r.1)
    (e : r = (s', x)) : Scrub s s' := by subst e; exact h

theorem Scrub.quiet {s s' : TState D} (h : Scrub s s') : Quiet s s' := ⟨h.cfg, h.hot.length_le, h.l1a⟩

theorem Scrub.hsc {s s' : TState D} (h : Scrub s s') (hs : HotSubCold s) : HotSubCold s' :=
  fun id hid => h.cold ▸ hs id ((h.hot.map _).subset hid)

theorem Scrub.ofL1a {s : TState D} {l : L1a D} (h : L1Api s.l1a l) : Scrub s { s with l1a := l } :=
  ⟨rfl, rfl, .refl _, h⟩

theorem scrub_discardHot (s : TState D) (id : Nat) : Scrub s (discardHot s id) :=
  ⟨rfl, rfl, List.filter_sublist, .invalidate _ _⟩

theorem scrub_admitTo {s : TState D} {a : Bool} {id : Nat} {v : Vec} {t : Token D} :
    Scrub s (admitTo s a id v t) := by
  unfold admitTo; split
  · exact .ofL1a (.insert _ _ _)
  · exact .refl s

variable [DecidableEq D] (digest : Vec → D)

theorem scrub_audit (s : TState D) : Scrub s (audit digest s).1 := by
  unfold audit
  split
  · exact .refl s
  · exact ⟨rfl, rfl, foldl_aerase_sublist, .foldl_invalidate (fun x => x) _ _⟩

end
end KyroModel
