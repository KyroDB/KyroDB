/-
One induction principle for the nested `Filter` tree: the children of `and` / `or` come as
`∀ f ∈ fs, P f`, so a fact about filters is a plain induction plus a lemma about lists, and
needs no `mutual` block.
-/
import KyroModel.Store.Filter

namespace KyroModel

theorem Filter.induction {P : Filter → Prop} (none : P .none) (exact : ∀ k v, P (.exact k v))
    (range : ∀ k b, P (.range k b)) (inMatch : ∀ k vs, P (.inMatch k vs))
    (and : ∀ fs, (∀ f ∈ fs, P f) → P (.and fs)) (or : ∀ fs, (∀ f ∈ fs, P f) → P (.or fs))
    (not_none : P (.not .none)) (not_some : ∀ f, P f → P (.not (some f))) : ∀ f, P f :=
  -- `Filter.rec` wants a motive for `List Filter` and one for the `Option Filter` under `not`:
  -- `P` of every member, resp. of the content if there is one (as `o = some f →`, so that the
  -- `some` case gets its hypothesis by `rfl` and the `none` case is vacuous)
  Filter.rec (motive_1 := P) (motive_2 := fun fs => ∀ f ∈ fs, P f)
    (motive_3 := fun o => ∀ f, o = some f → P f)
    none exact range inMatch and or
    (fun o ih => match o, ih with
      | .none, _ => not_none
      | some f, ih => not_some f (ih f rfl))
    (fun _ h => nomatch h)
    (fun _ _ hh ht _ hf => (List.mem_cons.mp hf).elim (· ▸ hh) (ht _))
    (fun _ h => nomatch h)
    (fun _ hv _ h => Option.some.inj h ▸ hv)

end KyroModel
