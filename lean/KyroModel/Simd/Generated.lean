/-
GENERATED by translators/xlate_simd.py from /repo/engine/src/simd.rs — do not edit.
One theorem per raw-pointer vector load of each `unsafe fn` kernel.
wrapper facts:
  dot_f32_sse2_entry -> dot_f32_sse2(a, b, a.len())
  dot_f32_avx2_entry -> dot_f32_avx2(a, b, a.len())
  dot_f32_avx512_entry -> dot_f32_avx512(a, b, a.len())
  sum_squares_f32_sse2_entry -> sum_squares_f32_sse2(v)
  sum_squares_f32_avx2_entry -> sum_squares_f32_avx2(v)
  sum_squares_f32_avx512_entry -> sum_squares_f32_avx512(v)
  l2_distance_sq_f32_sse2_entry -> l2_distance_sq_f32_sse2(a, b, a.len())
  l2_distance_sq_f32_avx2_entry -> l2_distance_sq_f32_avx2(a, b, a.len())
  l2_distance_sq_f32_avx512_entry -> l2_distance_sq_f32_avx512(a, b, a.len())
  dot_and_norms_f32_sse2_entry -> dot_and_norms_f32_sse2(a, b, a.len())
  dot_and_norms_f32_avx2_entry -> dot_and_norms_f32_avx2(a, b, a.len())
  dot_and_norms_f32_avx512_entry -> dot_and_norms_f32_avx512(a, b, a.len())
  dot_f32_neon_entry -> dot_f32_neon(a, b, a.len())
  sum_squares_f32_neon_entry -> sum_squares_f32_neon(v)
  l2_distance_sq_f32_neon_entry -> l2_distance_sq_f32_neon(a, b, a.len())
  dot_and_norms_f32_neon_entry -> dot_and_norms_f32_neon(a, b, a.len())
  pub fn dot_f32 checks equal lengths
  pub fn l2_distance_f32 checks equal lengths
  pub fn l2_distance_sq_f32 checks equal lengths
  pub fn cosine_similarity_f32 checks equal lengths
-/
import KyroModel.Lemmas.SimdBounds

set_option linter.unusedVariables false
namespace KyroModel.Simd

/-- `_mm256_loadu_ps(a.as_ptr().add(off)) in for i in 0..chunks4` -/
theorem dot_f32_avx2_load_0 (len i : Nat) (hlo : 0 ≤ i) (hhi : i < ((len / 8) / 4)) : (i * 32) + 8 ≤ len := block_load 8 4 0 hhi (by decide)

/-- `_mm256_loadu_ps(b.as_ptr().add(off)) in for i in 0..chunks4` -/
theorem dot_f32_avx2_load_1 (len i : Nat) (hlo : 0 ≤ i) (hhi : i < ((len / 8) / 4)) : (i * 32) + 8 ≤ len := dot_f32_avx2_load_0 len i hlo hhi

/-- `_mm256_loadu_ps(a.as_ptr().add(off + 8)) in for i in 0..chunks4` -/
theorem dot_f32_avx2_load_2 (len i : Nat) (hlo : 0 ≤ i) (hhi : i < ((len / 8) / 4)) : (i * 32) + 8 + 8 ≤ len := block_load 8 4 8 hhi (by decide)

/-- `_mm256_loadu_ps(b.as_ptr().add(off + 8)) in for i in 0..chunks4` -/
theorem dot_f32_avx2_load_3 (len i : Nat) (hlo : 0 ≤ i) (hhi : i < ((len / 8) / 4)) : (i * 32) + 8 + 8 ≤ len := dot_f32_avx2_load_2 len i hlo hhi

/-- `_mm256_loadu_ps(a.as_ptr().add(off + 16)) in for i in 0..chunks4` -/
theorem dot_f32_avx2_load_4 (len i : Nat) (hlo : 0 ≤ i) (hhi : i < ((len / 8) / 4)) : (i * 32) + 16 + 8 ≤ len := block_load 8 4 16 hhi (by decide)

/-- `_mm256_loadu_ps(b.as_ptr().add(off + 16)) in for i in 0..chunks4` -/
theorem dot_f32_avx2_load_5 (len i : Nat) (hlo : 0 ≤ i) (hhi : i < ((len / 8) / 4)) : (i * 32) + 16 + 8 ≤ len := dot_f32_avx2_load_4 len i hlo hhi

/-- `_mm256_loadu_ps(a.as_ptr().add(off + 24)) in for i in 0..chunks4` -/
theorem dot_f32_avx2_load_6 (len i : Nat) (hlo : 0 ≤ i) (hhi : i < ((len / 8) / 4)) : (i * 32) + 24 + 8 ≤ len := block_load 8 4 24 hhi (by decide)

/-- `_mm256_loadu_ps(b.as_ptr().add(off + 24)) in for i in 0..chunks4` -/
theorem dot_f32_avx2_load_7 (len i : Nat) (hlo : 0 ≤ i) (hhi : i < ((len / 8) / 4)) : (i * 32) + 24 + 8 ≤ len := dot_f32_avx2_load_6 len i hlo hhi

/-- `_mm256_loadu_ps(a.as_ptr().add(off)) in for i in (chunks4 * 4)..chunks` -/
theorem dot_f32_avx2_load_8 (len i : Nat) (hlo : ((len / 8) / 4) * 4 ≤ i) (hhi : i < (len / 8)) : (i * 8) + 8 ≤ len := vec_load hhi

/-- `_mm256_loadu_ps(b.as_ptr().add(off)) in for i in (chunks4 * 4)..chunks` -/
theorem dot_f32_avx2_load_9 (len i : Nat) (hlo : ((len / 8) / 4) * 4 ≤ i) (hhi : i < (len / 8)) : (i * 8) + 8 ≤ len := dot_f32_avx2_load_8 len i hlo hhi

/-- `_mm512_loadu_ps(a.as_ptr().add(off)) in for i in 0..chunks4` -/
theorem dot_f32_avx512_load_0 (len i : Nat) (hlo : 0 ≤ i) (hhi : i < ((len / 16) / 4)) : (i * 64) + 16 ≤ len := block_load 16 4 0 hhi (by decide)

/-- `_mm512_loadu_ps(b.as_ptr().add(off)) in for i in 0..chunks4` -/
theorem dot_f32_avx512_load_1 (len i : Nat) (hlo : 0 ≤ i) (hhi : i < ((len / 16) / 4)) : (i * 64) + 16 ≤ len := dot_f32_avx512_load_0 len i hlo hhi

/-- `_mm512_loadu_ps(a.as_ptr().add(off + 16)) in for i in 0..chunks4` -/
theorem dot_f32_avx512_load_2 (len i : Nat) (hlo : 0 ≤ i) (hhi : i < ((len / 16) / 4)) : (i * 64) + 16 + 16 ≤ len := block_load 16 4 16 hhi (by decide)

/-- `_mm512_loadu_ps(b.as_ptr().add(off + 16)) in for i in 0..chunks4` -/
theorem dot_f32_avx512_load_3 (len i : Nat) (hlo : 0 ≤ i) (hhi : i < ((len / 16) / 4)) : (i * 64) + 16 + 16 ≤ len := dot_f32_avx512_load_2 len i hlo hhi

/-- `_mm512_loadu_ps(a.as_ptr().add(off + 32)) in for i in 0..chunks4` -/
theorem dot_f32_avx512_load_4 (len i : Nat) (hlo : 0 ≤ i) (hhi : i < ((len / 16) / 4)) : (i * 64) + 32 + 16 ≤ len := block_load 16 4 32 hhi (by decide)

/-- `_mm512_loadu_ps(b.as_ptr().add(off + 32)) in for i in 0..chunks4` -/
theorem dot_f32_avx512_load_5 (len i : Nat) (hlo : 0 ≤ i) (hhi : i < ((len / 16) / 4)) : (i * 64) + 32 + 16 ≤ len := dot_f32_avx512_load_4 len i hlo hhi

/-- `_mm512_loadu_ps(a.as_ptr().add(off + 48)) in for i in 0..chunks4` -/
theorem dot_f32_avx512_load_6 (len i : Nat) (hlo : 0 ≤ i) (hhi : i < ((len / 16) / 4)) : (i * 64) + 48 + 16 ≤ len := block_load 16 4 48 hhi (by decide)

/-- `_mm512_loadu_ps(b.as_ptr().add(off + 48)) in for i in 0..chunks4` -/
theorem dot_f32_avx512_load_7 (len i : Nat) (hlo : 0 ≤ i) (hhi : i < ((len / 16) / 4)) : (i * 64) + 48 + 16 ≤ len := dot_f32_avx512_load_6 len i hlo hhi

/-- `_mm512_loadu_ps(a.as_ptr().add(off)) in for i in (chunks4 * 4)..chunks` -/
theorem dot_f32_avx512_load_8 (len i : Nat) (hlo : ((len / 16) / 4) * 4 ≤ i) (hhi : i < (len / 16)) : (i * 16) + 16 ≤ len := vec_load hhi

/-- `_mm512_loadu_ps(b.as_ptr().add(off)) in for i in (chunks4 * 4)..chunks` -/
theorem dot_f32_avx512_load_9 (len i : Nat) (hlo : ((len / 16) / 4) * 4 ≤ i) (hhi : i < (len / 16)) : (i * 16) + 16 ≤ len := dot_f32_avx512_load_8 len i hlo hhi

/-- `_mm_loadu_ps(a.as_ptr().add(off)) in for i in 0..chunks` -/
theorem dot_f32_sse2_load_0 (len i : Nat) (hlo : 0 ≤ i) (hhi : i < (len / 4)) : (i * 4) + 4 ≤ len := vec_load hhi

/-- `_mm_loadu_ps(b.as_ptr().add(off)) in for i in 0..chunks` -/
theorem dot_f32_sse2_load_1 (len i : Nat) (hlo : 0 ≤ i) (hhi : i < (len / 4)) : (i * 4) + 4 ≤ len := dot_f32_sse2_load_0 len i hlo hhi

/-- `_mm256_loadu_ps(v.as_ptr().add(off)) in for i in 0..chunks4` -/
theorem sum_squares_f32_avx2_load_0 (len i : Nat) (hlo : 0 ≤ i) (hhi : i < ((len / 8) / 4)) : (i * 32) + 8 ≤ len := dot_f32_avx2_load_0 len i hlo hhi

/-- `_mm256_loadu_ps(v.as_ptr().add(off + 8)) in for i in 0..chunks4` -/
theorem sum_squares_f32_avx2_load_1 (len i : Nat) (hlo : 0 ≤ i) (hhi : i < ((len / 8) / 4)) : (i * 32) + 8 + 8 ≤ len := dot_f32_avx2_load_2 len i hlo hhi

/-- `_mm256_loadu_ps(v.as_ptr().add(off + 16)) in for i in 0..chunks4` -/
theorem sum_squares_f32_avx2_load_2 (len i : Nat) (hlo : 0 ≤ i) (hhi : i < ((len / 8) / 4)) : (i * 32) + 16 + 8 ≤ len := dot_f32_avx2_load_4 len i hlo hhi

/-- `_mm256_loadu_ps(v.as_ptr().add(off + 24)) in for i in 0..chunks4` -/
theorem sum_squares_f32_avx2_load_3 (len i : Nat) (hlo : 0 ≤ i) (hhi : i < ((len / 8) / 4)) : (i * 32) + 24 + 8 ≤ len := dot_f32_avx2_load_6 len i hlo hhi

/-- `_mm256_loadu_ps(v.as_ptr().add(off)) in for i in (chunks4 * 4)..chunks` -/
theorem sum_squares_f32_avx2_load_4 (len i : Nat) (hlo : ((len / 8) / 4) * 4 ≤ i) (hhi : i < (len / 8)) : (i * 8) + 8 ≤ len := dot_f32_avx2_load_8 len i hlo hhi

/-- `_mm512_loadu_ps(v.as_ptr().add(off)) in for i in 0..chunks4` -/
theorem sum_squares_f32_avx512_load_0 (len i : Nat) (hlo : 0 ≤ i) (hhi : i < ((len / 16) / 4)) : (i * 64) + 16 ≤ len := dot_f32_avx512_load_0 len i hlo hhi

/-- `_mm512_loadu_ps(v.as_ptr().add(off + 16)) in for i in 0..chunks4` -/
theorem sum_squares_f32_avx512_load_1 (len i : Nat) (hlo : 0 ≤ i) (hhi : i < ((len / 16) / 4)) : (i * 64) + 16 + 16 ≤ len := dot_f32_avx512_load_2 len i hlo hhi

/-- `_mm512_loadu_ps(v.as_ptr().add(off + 32)) in for i in 0..chunks4` -/
theorem sum_squares_f32_avx512_load_2 (len i : Nat) (hlo : 0 ≤ i) (hhi : i < ((len / 16) / 4)) : (i * 64) + 32 + 16 ≤ len := dot_f32_avx512_load_4 len i hlo hhi

/-- `_mm512_loadu_ps(v.as_ptr().add(off + 48)) in for i in 0..chunks4` -/
theorem sum_squares_f32_avx512_load_3 (len i : Nat) (hlo : 0 ≤ i) (hhi : i < ((len / 16) / 4)) : (i * 64) + 48 + 16 ≤ len := dot_f32_avx512_load_6 len i hlo hhi

/-- `_mm512_loadu_ps(v.as_ptr().add(off)) in for i in (chunks4 * 4)..chunks` -/
theorem sum_squares_f32_avx512_load_4 (len i : Nat) (hlo : ((len / 16) / 4) * 4 ≤ i) (hhi : i < (len / 16)) : (i * 16) + 16 ≤ len := dot_f32_avx512_load_8 len i hlo hhi

/-- `_mm_loadu_ps(v.as_ptr().add(off)) in for i in 0..chunks` -/
theorem sum_squares_f32_sse2_load_0 (len i : Nat) (hlo : 0 ≤ i) (hhi : i < (len / 4)) : (i * 4) + 4 ≤ len := dot_f32_sse2_load_0 len i hlo hhi

/-- `_mm256_loadu_ps(a.as_ptr().add(off)) in for i in 0..chunks4` -/
theorem l2_distance_sq_f32_avx2_load_0 (len i : Nat) (hlo : 0 ≤ i) (hhi : i < ((len / 8) / 4)) : (i * 32) + 8 ≤ len := dot_f32_avx2_load_0 len i hlo hhi

/-- `_mm256_loadu_ps(b.as_ptr().add(off)) in for i in 0..chunks4` -/
theorem l2_distance_sq_f32_avx2_load_1 (len i : Nat) (hlo : 0 ≤ i) (hhi : i < ((len / 8) / 4)) : (i * 32) + 8 ≤ len := dot_f32_avx2_load_0 len i hlo hhi

/-- `_mm256_loadu_ps(a.as_ptr().add(off + 8)) in for i in 0..chunks4` -/
theorem l2_distance_sq_f32_avx2_load_2 (len i : Nat) (hlo : 0 ≤ i) (hhi : i < ((len / 8) / 4)) : (i * 32) + 8 + 8 ≤ len := dot_f32_avx2_load_2 len i hlo hhi

/-- `_mm256_loadu_ps(b.as_ptr().add(off + 8)) in for i in 0..chunks4` -/
theorem l2_distance_sq_f32_avx2_load_3 (len i : Nat) (hlo : 0 ≤ i) (hhi : i < ((len / 8) / 4)) : (i * 32) + 8 + 8 ≤ len := dot_f32_avx2_load_2 len i hlo hhi

/-- `_mm256_loadu_ps(a.as_ptr().add(off + 16)) in for i in 0..chunks4` -/
theorem l2_distance_sq_f32_avx2_load_4 (len i : Nat) (hlo : 0 ≤ i) (hhi : i < ((len / 8) / 4)) : (i * 32) + 16 + 8 ≤ len := dot_f32_avx2_load_4 len i hlo hhi

/-- `_mm256_loadu_ps(b.as_ptr().add(off + 16)) in for i in 0..chunks4` -/
theorem l2_distance_sq_f32_avx2_load_5 (len i : Nat) (hlo : 0 ≤ i) (hhi : i < ((len / 8) / 4)) : (i * 32) + 16 + 8 ≤ len := dot_f32_avx2_load_4 len i hlo hhi

/-- `_mm256_loadu_ps(a.as_ptr().add(off + 24)) in for i in 0..chunks4` -/
theorem l2_distance_sq_f32_avx2_load_6 (len i : Nat) (hlo : 0 ≤ i) (hhi : i < ((len / 8) / 4)) : (i * 32) + 24 + 8 ≤ len := dot_f32_avx2_load_6 len i hlo hhi

/-- `_mm256_loadu_ps(b.as_ptr().add(off + 24)) in for i in 0..chunks4` -/
theorem l2_distance_sq_f32_avx2_load_7 (len i : Nat) (hlo : 0 ≤ i) (hhi : i < ((len / 8) / 4)) : (i * 32) + 24 + 8 ≤ len := dot_f32_avx2_load_6 len i hlo hhi

/-- `_mm256_loadu_ps(a.as_ptr().add(off)) in for i in (chunks4 * 4)..chunks` -/
theorem l2_distance_sq_f32_avx2_load_8 (len i : Nat) (hlo : ((len / 8) / 4) * 4 ≤ i) (hhi : i < (len / 8)) : (i * 8) + 8 ≤ len := dot_f32_avx2_load_8 len i hlo hhi

/-- `_mm256_loadu_ps(b.as_ptr().add(off)) in for i in (chunks4 * 4)..chunks` -/
theorem l2_distance_sq_f32_avx2_load_9 (len i : Nat) (hlo : ((len / 8) / 4) * 4 ≤ i) (hhi : i < (len / 8)) : (i * 8) + 8 ≤ len := dot_f32_avx2_load_8 len i hlo hhi

/-- `_mm512_loadu_ps(a.as_ptr().add(off)) in for i in 0..chunks4` -/
theorem l2_distance_sq_f32_avx512_load_0 (len i : Nat) (hlo : 0 ≤ i) (hhi : i < ((len / 16) / 4)) : (i * 64) + 16 ≤ len := dot_f32_avx512_load_0 len i hlo hhi

/-- `_mm512_loadu_ps(b.as_ptr().add(off)) in for i in 0..chunks4` -/
theorem l2_distance_sq_f32_avx512_load_1 (len i : Nat) (hlo : 0 ≤ i) (hhi : i < ((len / 16) / 4)) : (i * 64) + 16 ≤ len := dot_f32_avx512_load_0 len i hlo hhi

/-- `_mm512_loadu_ps(a.as_ptr().add(off + 16)) in for i in 0..chunks4` -/
theorem l2_distance_sq_f32_avx512_load_2 (len i : Nat) (hlo : 0 ≤ i) (hhi : i < ((len / 16) / 4)) : (i * 64) + 16 + 16 ≤ len := dot_f32_avx512_load_2 len i hlo hhi

/-- `_mm512_loadu_ps(b.as_ptr().add(off + 16)) in for i in 0..chunks4` -/
theorem l2_distance_sq_f32_avx512_load_3 (len i : Nat) (hlo : 0 ≤ i) (hhi : i < ((len / 16) / 4)) : (i * 64) + 16 + 16 ≤ len := dot_f32_avx512_load_2 len i hlo hhi

/-- `_mm512_loadu_ps(a.as_ptr().add(off + 32)) in for i in 0..chunks4` -/
theorem l2_distance_sq_f32_avx512_load_4 (len i : Nat) (hlo : 0 ≤ i) (hhi : i < ((len / 16) / 4)) : (i * 64) + 32 + 16 ≤ len := dot_f32_avx512_load_4 len i hlo hhi

/-- `_mm512_loadu_ps(b.as_ptr().add(off + 32)) in for i in 0..chunks4` -/
theorem l2_distance_sq_f32_avx512_load_5 (len i : Nat) (hlo : 0 ≤ i) (hhi : i < ((len / 16) / 4)) : (i * 64) + 32 + 16 ≤ len := dot_f32_avx512_load_4 len i hlo hhi

/-- `_mm512_loadu_ps(a.as_ptr().add(off + 48)) in for i in 0..chunks4` -/
theorem l2_distance_sq_f32_avx512_load_6 (len i : Nat) (hlo : 0 ≤ i) (hhi : i < ((len / 16) / 4)) : (i * 64) + 48 + 16 ≤ len := dot_f32_avx512_load_6 len i hlo hhi

/-- `_mm512_loadu_ps(b.as_ptr().add(off + 48)) in for i in 0..chunks4` -/
theorem l2_distance_sq_f32_avx512_load_7 (len i : Nat) (hlo : 0 ≤ i) (hhi : i < ((len / 16) / 4)) : (i * 64) + 48 + 16 ≤ len := dot_f32_avx512_load_6 len i hlo hhi

/-- `_mm512_loadu_ps(a.as_ptr().add(off)) in for i in (chunks4 * 4)..chunks` -/
theorem l2_distance_sq_f32_avx512_load_8 (len i : Nat) (hlo : ((len / 16) / 4) * 4 ≤ i) (hhi : i < (len / 16)) : (i * 16) + 16 ≤ len := dot_f32_avx512_load_8 len i hlo hhi

/-- `_mm512_loadu_ps(b.as_ptr().add(off)) in for i in (chunks4 * 4)..chunks` -/
theorem l2_distance_sq_f32_avx512_load_9 (len i : Nat) (hlo : ((len / 16) / 4) * 4 ≤ i) (hhi : i < (len / 16)) : (i * 16) + 16 ≤ len := dot_f32_avx512_load_8 len i hlo hhi

/-- `_mm_loadu_ps(a.as_ptr().add(off)) in for i in 0..chunks` -/
theorem l2_distance_sq_f32_sse2_load_0 (len i : Nat) (hlo : 0 ≤ i) (hhi : i < (len / 4)) : (i * 4) + 4 ≤ len := dot_f32_sse2_load_0 len i hlo hhi

/-- `_mm_loadu_ps(b.as_ptr().add(off)) in for i in 0..chunks` -/
theorem l2_distance_sq_f32_sse2_load_1 (len i : Nat) (hlo : 0 ≤ i) (hhi : i < (len / 4)) : (i * 4) + 4 ≤ len := dot_f32_sse2_load_0 len i hlo hhi

/-- `_mm256_loadu_ps(a.as_ptr().add(off)) in for i in 0..chunks4` -/
theorem dot_and_norms_f32_avx2_load_0 (len i : Nat) (hlo : 0 ≤ i) (hhi : i < ((len / 8) / 4)) : (i * 32) + 8 ≤ len := dot_f32_avx2_load_0 len i hlo hhi

/-- `_mm256_loadu_ps(b.as_ptr().add(off)) in for i in 0..chunks4` -/
theorem dot_and_norms_f32_avx2_load_1 (len i : Nat) (hlo : 0 ≤ i) (hhi : i < ((len / 8) / 4)) : (i * 32) + 8 ≤ len := dot_f32_avx2_load_0 len i hlo hhi

/-- `_mm256_loadu_ps(a.as_ptr().add(off + 8)) in for i in 0..chunks4` -/
theorem dot_and_norms_f32_avx2_load_2 (len i : Nat) (hlo : 0 ≤ i) (hhi : i < ((len / 8) / 4)) : (i * 32) + 8 + 8 ≤ len := dot_f32_avx2_load_2 len i hlo hhi

/-- `_mm256_loadu_ps(b.as_ptr().add(off + 8)) in for i in 0..chunks4` -/
theorem dot_and_norms_f32_avx2_load_3 (len i : Nat) (hlo : 0 ≤ i) (hhi : i < ((len / 8) / 4)) : (i * 32) + 8 + 8 ≤ len := dot_f32_avx2_load_2 len i hlo hhi

/-- `_mm256_loadu_ps(a.as_ptr().add(off + 16)) in for i in 0..chunks4` -/
theorem dot_and_norms_f32_avx2_load_4 (len i : Nat) (hlo : 0 ≤ i) (hhi : i < ((len / 8) / 4)) : (i * 32) + 16 + 8 ≤ len := dot_f32_avx2_load_4 len i hlo hhi

/-- `_mm256_loadu_ps(b.as_ptr().add(off + 16)) in for i in 0..chunks4` -/
theorem dot_and_norms_f32_avx2_load_5 (len i : Nat) (hlo : 0 ≤ i) (hhi : i < ((len / 8) / 4)) : (i * 32) + 16 + 8 ≤ len := dot_f32_avx2_load_4 len i hlo hhi

/-- `_mm256_loadu_ps(a.as_ptr().add(off + 24)) in for i in 0..chunks4` -/
theorem dot_and_norms_f32_avx2_load_6 (len i : Nat) (hlo : 0 ≤ i) (hhi : i < ((len / 8) / 4)) : (i * 32) + 24 + 8 ≤ len := dot_f32_avx2_load_6 len i hlo hhi

/-- `_mm256_loadu_ps(b.as_ptr().add(off + 24)) in for i in 0..chunks4` -/
theorem dot_and_norms_f32_avx2_load_7 (len i : Nat) (hlo : 0 ≤ i) (hhi : i < ((len / 8) / 4)) : (i * 32) + 24 + 8 ≤ len := dot_f32_avx2_load_6 len i hlo hhi

/-- `_mm256_loadu_ps(a.as_ptr().add(i)) in for i in chunks4 * 32..chunks * 8 step 8` -/
theorem dot_and_norms_f32_avx2_load_8 (len i : Nat) (hlo : ((len / 8) / 4) * 32 ≤ i) (hhi : i < (len / 8) * 8) (hstep : (i - (((len / 8) / 4) * 32)) % 8 = 0) : i + 8 ≤ len := stepped_load (Nat.dvd_mul_left_of_dvd ⟨4, rfl⟩ _) hlo hhi hstep

/-- `_mm256_loadu_ps(b.as_ptr().add(i)) in for i in chunks4 * 32..chunks * 8 step 8` -/
theorem dot_and_norms_f32_avx2_load_9 (len i : Nat) (hlo : ((len / 8) / 4) * 32 ≤ i) (hhi : i < (len / 8) * 8) (hstep : (i - (((len / 8) / 4) * 32)) % 8 = 0) : i + 8 ≤ len := dot_and_norms_f32_avx2_load_8 len i hlo hhi hstep

/-- `_mm512_loadu_ps(a.as_ptr().add(off)) in for i in 0..chunks4` -/
theorem dot_and_norms_f32_avx512_load_0 (len i : Nat) (hlo : 0 ≤ i) (hhi : i < ((len / 16) / 4)) : (i * 64) + 16 ≤ len := dot_f32_avx512_load_0 len i hlo hhi

/-- `_mm512_loadu_ps(b.as_ptr().add(off)) in for i in 0..chunks4` -/
theorem dot_and_norms_f32_avx512_load_1 (len i : Nat) (hlo : 0 ≤ i) (hhi : i < ((len / 16) / 4)) : (i * 64) + 16 ≤ len := dot_f32_avx512_load_0 len i hlo hhi

/-- `_mm512_loadu_ps(a.as_ptr().add(off + 16)) in for i in 0..chunks4` -/
theorem dot_and_norms_f32_avx512_load_2 (len i : Nat) (hlo : 0 ≤ i) (hhi : i < ((len / 16) / 4)) : (i * 64) + 16 + 16 ≤ len := dot_f32_avx512_load_2 len i hlo hhi

/-- `_mm512_loadu_ps(b.as_ptr().add(off + 16)) in for i in 0..chunks4` -/
theorem dot_and_norms_f32_avx512_load_3 (len i : Nat) (hlo : 0 ≤ i) (hhi : i < ((len / 16) / 4)) : (i * 64) + 16 + 16 ≤ len := dot_f32_avx512_load_2 len i hlo hhi

/-- `_mm512_loadu_ps(a.as_ptr().add(off + 32)) in for i in 0..chunks4` -/
theorem dot_and_norms_f32_avx512_load_4 (len i : Nat) (hlo : 0 ≤ i) (hhi : i < ((len / 16) / 4)) : (i * 64) + 32 + 16 ≤ len := dot_f32_avx512_load_4 len i hlo hhi

/-- `_mm512_loadu_ps(b.as_ptr().add(off + 32)) in for i in 0..chunks4` -/
theorem dot_and_norms_f32_avx512_load_5 (len i : Nat) (hlo : 0 ≤ i) (hhi : i < ((len / 16) / 4)) : (i * 64) + 32 + 16 ≤ len := dot_f32_avx512_load_4 len i hlo hhi

/-- `_mm512_loadu_ps(a.as_ptr().add(off + 48)) in for i in 0..chunks4` -/
theorem dot_and_norms_f32_avx512_load_6 (len i : Nat) (hlo : 0 ≤ i) (hhi : i < ((len / 16) / 4)) : (i * 64) + 48 + 16 ≤ len := dot_f32_avx512_load_6 len i hlo hhi

/-- `_mm512_loadu_ps(b.as_ptr().add(off + 48)) in for i in 0..chunks4` -/
theorem dot_and_norms_f32_avx512_load_7 (len i : Nat) (hlo : 0 ≤ i) (hhi : i < ((len / 16) / 4)) : (i * 64) + 48 + 16 ≤ len := dot_f32_avx512_load_6 len i hlo hhi

/-- `_mm512_loadu_ps(a.as_ptr().add(i)) in for i in chunks4 * 64..chunks * 16 step 16` -/
theorem dot_and_norms_f32_avx512_load_8 (len i : Nat) (hlo : ((len / 16) / 4) * 64 ≤ i) (hhi : i < (len / 16) * 16) (hstep : (i - (((len / 16) / 4) * 64)) % 16 = 0) : i + 16 ≤ len := stepped_load (Nat.dvd_mul_left_of_dvd ⟨4, rfl⟩ _) hlo hhi hstep

/-- `_mm512_loadu_ps(b.as_ptr().add(i)) in for i in chunks4 * 64..chunks * 16 step 16` -/
theorem dot_and_norms_f32_avx512_load_9 (len i : Nat) (hlo : ((len / 16) / 4) * 64 ≤ i) (hhi : i < (len / 16) * 16) (hstep : (i - (((len / 16) / 4) * 64)) % 16 = 0) : i + 16 ≤ len := dot_and_norms_f32_avx512_load_8 len i hlo hhi hstep

/-- `_mm_loadu_ps(a.as_ptr().add(off)) in for i in 0..chunks` -/
theorem dot_and_norms_f32_sse2_load_0 (len i : Nat) (hlo : 0 ≤ i) (hhi : i < (len / 4)) : (i * 4) + 4 ≤ len := dot_f32_sse2_load_0 len i hlo hhi

/-- `_mm_loadu_ps(b.as_ptr().add(off)) in for i in 0..chunks` -/
theorem dot_and_norms_f32_sse2_load_1 (len i : Nat) (hlo : 0 ≤ i) (hhi : i < (len / 4)) : (i * 4) + 4 ≤ len := dot_f32_sse2_load_0 len i hlo hhi

/-- `vld1q_f32(a.as_ptr().add(off)) in for i in 0..chunks` -/
theorem dot_f32_neon_load_0 (len i : Nat) (hlo : 0 ≤ i) (hhi : i < (len / 4)) : (i * 4) + 4 ≤ len := dot_f32_sse2_load_0 len i hlo hhi

/-- `vld1q_f32(b.as_ptr().add(off)) in for i in 0..chunks` -/
theorem dot_f32_neon_load_1 (len i : Nat) (hlo : 0 ≤ i) (hhi : i < (len / 4)) : (i * 4) + 4 ≤ len := dot_f32_sse2_load_0 len i hlo hhi

/-- `vld1q_f32(v.as_ptr().add(off)) in for i in 0..chunks` -/
theorem sum_squares_f32_neon_load_0 (len i : Nat) (hlo : 0 ≤ i) (hhi : i < (len / 4)) : (i * 4) + 4 ≤ len := dot_f32_sse2_load_0 len i hlo hhi

/-- `vld1q_f32(a.as_ptr().add(off)) in for i in 0..chunks` -/
theorem l2_distance_sq_f32_neon_load_0 (len i : Nat) (hlo : 0 ≤ i) (hhi : i < (len / 4)) : (i * 4) + 4 ≤ len := dot_f32_sse2_load_0 len i hlo hhi

/-- `vld1q_f32(b.as_ptr().add(off)) in for i in 0..chunks` -/
theorem l2_distance_sq_f32_neon_load_1 (len i : Nat) (hlo : 0 ≤ i) (hhi : i < (len / 4)) : (i * 4) + 4 ≤ len := dot_f32_sse2_load_0 len i hlo hhi

/-- `vld1q_f32(a.as_ptr().add(off)) in for i in 0..chunks` -/
theorem dot_and_norms_f32_neon_load_0 (len i : Nat) (hlo : 0 ≤ i) (hhi : i < (len / 4)) : (i * 4) + 4 ≤ len := dot_f32_sse2_load_0 len i hlo hhi

/-- `vld1q_f32(b.as_ptr().add(off)) in for i in 0..chunks` -/
theorem dot_and_norms_f32_neon_load_1 (len i : Nat) (hlo : 0 ≤ i) (hhi : i < (len / 4)) : (i * 4) + 4 ≤ len := dot_f32_sse2_load_0 len i hlo hhi

def kernelCount : Nat := 17
def obligationCount : Nat := 84
def obligationNames : List String := ["dot_f32_avx2_load_0", "dot_f32_avx2_load_1", "dot_f32_avx2_load_2", "dot_f32_avx2_load_3", "dot_f32_avx2_load_4", "dot_f32_avx2_load_5", "dot_f32_avx2_load_6", "dot_f32_avx2_load_7", "dot_f32_avx2_load_8", "dot_f32_avx2_load_9", "dot_f32_avx512_load_0", "dot_f32_avx512_load_1", "dot_f32_avx512_load_2", "dot_f32_avx512_load_3", "dot_f32_avx512_load_4", "dot_f32_avx512_load_5", "dot_f32_avx512_load_6", "dot_f32_avx512_load_7", "dot_f32_avx512_load_8", "dot_f32_avx512_load_9", "dot_f32_sse2_load_0", "dot_f32_sse2_load_1", "sum_squares_f32_avx2_load_0", "sum_squares_f32_avx2_load_1", "sum_squares_f32_avx2_load_2", "sum_squares_f32_avx2_load_3", "sum_squares_f32_avx2_load_4", "sum_squares_f32_avx512_load_0", "sum_squares_f32_avx512_load_1", "sum_squares_f32_avx512_load_2", "sum_squares_f32_avx512_load_3", "sum_squares_f32_avx512_load_4", "sum_squares_f32_sse2_load_0", "l2_distance_sq_f32_avx2_load_0", "l2_distance_sq_f32_avx2_load_1", "l2_distance_sq_f32_avx2_load_2", "l2_distance_sq_f32_avx2_load_3", "l2_distance_sq_f32_avx2_load_4", "l2_distance_sq_f32_avx2_load_5", "l2_distance_sq_f32_avx2_load_6", "l2_distance_sq_f32_avx2_load_7", "l2_distance_sq_f32_avx2_load_8", "l2_distance_sq_f32_avx2_load_9", "l2_distance_sq_f32_avx512_load_0", "l2_distance_sq_f32_avx512_load_1", "l2_distance_sq_f32_avx512_load_2", "l2_distance_sq_f32_avx512_load_3", "l2_distance_sq_f32_avx512_load_4", "l2_distance_sq_f32_avx512_load_5", "l2_distance_sq_f32_avx512_load_6", "l2_distance_sq_f32_avx512_load_7", "l2_distance_sq_f32_avx512_load_8", "l2_distance_sq_f32_avx512_load_9", "l2_distance_sq_f32_sse2_load_0", "l2_distance_sq_f32_sse2_load_1", "dot_and_norms_f32_avx2_load_0", "dot_and_norms_f32_avx2_load_1", "dot_and_norms_f32_avx2_load_2", "dot_and_norms_f32_avx2_load_3", "dot_and_norms_f32_avx2_load_4", "dot_and_norms_f32_avx2_load_5", "dot_and_norms_f32_avx2_load_6", "dot_and_norms_f32_avx2_load_7", "dot_and_norms_f32_avx2_load_8", "dot_and_norms_f32_avx2_load_9", "dot_and_norms_f32_avx512_load_0", "dot_and_norms_f32_avx512_load_1", "dot_and_norms_f32_avx512_load_2", "dot_and_norms_f32_avx512_load_3", "dot_and_norms_f32_avx512_load_4", "dot_and_norms_f32_avx512_load_5", "dot_and_norms_f32_avx512_load_6", "dot_and_norms_f32_avx512_load_7", "dot_and_norms_f32_avx512_load_8", "dot_and_norms_f32_avx512_load_9", "dot_and_norms_f32_sse2_load_0", "dot_and_norms_f32_sse2_load_1", "dot_f32_neon_load_0", "dot_f32_neon_load_1", "sum_squares_f32_neon_load_0", "l2_distance_sq_f32_neon_load_0", "l2_distance_sq_f32_neon_load_1", "dot_and_norms_f32_neon_load_0", "dot_and_norms_f32_neon_load_1"]
/-- problems the translator could not resolve (must be empty) -/
def translatorProblems : List String := []

end KyroModel.Simd
