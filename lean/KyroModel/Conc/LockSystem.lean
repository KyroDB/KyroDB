/-
Abstract lock system at the granularity the controlled scheduler works at (harness/src/sched.rs):
mutexes and reader/writer locks with writer preference, upgradable reads and upgrades.  A state
records, per thread, the locks it holds and the request it is waiting on (if any); there is no
step relation.  A DEADLOCK is a state in which some thread is unfinished and every unfinished
thread waits on a request that cannot be granted.

`no_deadlock_of_ranked`: if the locks carry a rank such that every waiting thread holds only
locks of rank strictly below the one it requests (an upgrade excepted: it holds that very lock as
an upgradable read), no well-formed state (`Wf`: one upgradable holder per lock) is a deadlock —
for any number of threads and locks.
-/
namespace KyroModel.Conc

inductive Mode | sh | ex | ug
deriving DecidableEq, Repr

inductive Req | sh | ex | ug | up
deriving DecidableEq, Repr

structure Th where
  held : List (Nat × Mode)
  want : Option (Nat × Req)
deriving Repr

def holds (t : Th) (l : Nat) : Bool := t.held.any (·.1 == l)
def holdsMode (t : Th) (l : Nat) (m : Mode) : Bool := t.held.any (fun p => p.1 == l && p.2 == m)

/-- some thread other than `i` holds `l` (in any mode) -/
def otherHolds (ths : List Th) (i l : Nat) : Bool :=
  ths.zipIdx.any fun (t, j) => j != i && holds t l

def otherHoldsMode (ths : List Th) (i l : Nat) (m : Mode) : Bool :=
  ths.zipIdx.any fun (t, j) => j != i && holdsMode t l m

/-- a writer (exclusive request) other than `i` waits on `l` -/
def writerWaits (ths : List Th) (i l : Nat) : Bool :=
  ths.zipIdx.any fun (t, j) => j != i && (t.want == some (l, .ex) || t.want == some (l, .up))

def grantable (ths : List Th) (i : Nat) : Bool :=
  match ths[i]? with
  | none => false
  | some t =>
    match t.want with
    | none => true
    | some (l, .ex) => !otherHolds ths i l
    | some (l, .ug) => !otherHoldsMode ths i l .ex && !otherHoldsMode ths i l .ug
    | some (l, .up) => !otherHoldsMode ths i l .sh
    | some (l, .sh) =>
      -- no exclusive holder; writer preference: not while a writer waits behind current holders
      !otherHoldsMode ths i l .ex && !(writerWaits ths i l && (otherHolds ths i l || holds t l))

def finished (t : Th) : Bool := t.held.isEmpty && t.want.isNone

/-- some thread is unfinished and every unfinished thread is waiting on a request that cannot be
    granted -/
def Deadlock (ths : List Th) : Prop :=
  (∃ t ∈ ths, finished t = false) ∧
  ∀ (i : Nat) (t : Th), ths[i]? = some t → finished t = false → t.want.isSome ∧ grantable ths i = false

/-- the rank discipline on a waiting thread -/
def RankedTh (rank : Nat → Nat) (t : Th) : Prop :=
  match t.want with
  | none => True
  | some (l, .up) => holdsMode t l .ug = true ∧ ∀ p ∈ t.held, p.1 ≠ l → rank p.1 < rank l
  | some (l, _) => ∀ p ∈ t.held, rank p.1 < rank l

def Ranked (rank : Nat → Nat) (ths : List Th) : Prop := ∀ t ∈ ths, RankedTh rank t

/-- well-formedness the lock semantics maintains: a lock held upgradable by one thread is not held
    upgradable or exclusive by another; a thread holding a lock shared does not also hold it
    upgradable -/
def Wf (ths : List Th) : Prop :=
  ∀ (i j : Nat) (ti tj : Th) (l : Nat), ths[i]? = some ti → ths[j]? = some tj → i ≠ j →
    holdsMode ti l .ug = true → holdsMode tj l .ug = false

theorem otherHolds_spec {ths : List Th} {i l : Nat} (h : otherHolds ths i l = true) :
    ∃ j t, ths[j]? = some t ∧ j ≠ i ∧ holds t l = true := by
  simp only [otherHolds, List.any_eq_true, Bool.and_eq_true, bne_iff_ne, ne_eq] at h
  obtain ⟨⟨t, j⟩, hm, hj, hh⟩ := h
  exact ⟨j, t, (List.mem_zipIdx_iff_getElem?.mp hm), hj, hh⟩

theorem holds_of_holdsMode {t : Th} {l : Nat} {m : Mode} (h : holdsMode t l m = true) :
    holds t l = true := by
  simp only [holdsMode, holds, List.any_eq_true, Bool.and_eq_true] at *
  obtain ⟨p, hp, h1, _⟩ := h
  exact ⟨p, hp, h1⟩

theorem otherHoldsMode_spec {ths : List Th} {i l : Nat} {m : Mode}
    (h : otherHoldsMode ths i l m = true) :
    ∃ j t, ths[j]? = some t ∧ j ≠ i ∧ holds t l = true := by
  simp only [otherHoldsMode, List.any_eq_true, Bool.and_eq_true, bne_iff_ne, ne_eq] at h
  obtain ⟨⟨t, j⟩, hm, hj, hh⟩ := h
  exact ⟨j, t, (List.mem_zipIdx_iff_getElem?.mp hm), hj, holds_of_holdsMode hh⟩

theorem holds_mem {t : Th} {l : Nat} (h : holds t l = true) : ∃ p ∈ t.held, p.1 = l := by
  simp only [holds, List.any_eq_true, beq_iff_eq] at h
  exact h

/-- **A blocked request is blocked by another thread that holds the requested lock** (directly,
    or — for a reader — through a waiting writer, which changes nothing: the holder exists), or
    the requester re-enters a lock it holds itself. -/
theorem blocked_has_holder {ths : List Th} {i : Nat} {t : Th} {l : Nat} {r : Req}
    (ht : ths[i]? = some t) (hw : t.want = some (l, r)) (hb : grantable ths i = false) :
    (∃ j u, ths[j]? = some u ∧ j ≠ i ∧ holds u l = true) ∨ (r = .sh ∧ holds t l = true) := by
  unfold grantable at hb
  simp only [ht, hw] at hb
  cases r with
  | ex =>
    simp only [Bool.not_eq_false'] at hb
    exact Or.inl (otherHolds_spec hb)
  | ug =>
    simp only [Bool.and_eq_false_iff, Bool.not_eq_false'] at hb
    exact Or.inl (hb.elim otherHoldsMode_spec otherHoldsMode_spec)
  | up =>
    simp only [Bool.not_eq_false'] at hb
    exact Or.inl (otherHoldsMode_spec hb)
  | sh =>
    simp only [Bool.and_eq_false_iff, Bool.not_eq_false', Bool.and_eq_true, Bool.or_eq_true] at hb
    rcases hb with hb | ⟨_, hb | hb⟩
    · exact Or.inl (otherHoldsMode_spec hb)
    · exact Or.inl (otherHolds_spec hb)
    · exact Or.inr ⟨rfl, hb⟩

theorem exists_max {α : Type} {l : List α} (f : α → Nat) (hne : l ≠ []) :
    ∃ x ∈ l, ∀ y ∈ l, f y ≤ f x := by
  cases h : (l.map f).max? with
  | none => simp [List.max?_eq_none_iff, hne] at h
  | some m =>
    obtain ⟨hm, hle⟩ := List.max?_eq_some_iff.mp h
    obtain ⟨x, hx, rfl⟩ := List.mem_map.mp hm
    exact ⟨x, hx, fun y hy => hle _ (List.mem_map_of_mem hy)⟩

theorem unfinished_of_holds {t : Th} {l : Nat} (h : holds t l = true) : finished t = false := by
  obtain ⟨p, hp, _⟩ := holds_mem h
  simp only [finished, Bool.and_eq_false_iff, List.isEmpty_eq_false_iff]
  exact Or.inl (List.ne_nil_of_mem hp)

/-- what the discipline says of a lock `l` a waiting thread holds: it ranks below the requested
    one, unless the request is the upgrade of `l` itself -/
theorem RankedTh.rank_lt {rank : Nat → Nat} {t : Th} {l l' : Nat} {r : Req} (h : RankedTh rank t)
    (hw : t.want = some (l', r)) (hh : holds t l = true) :
    rank l < rank l' ∨ (r = .up ∧ l' = l ∧ holdsMode t l .ug = true) := by
  obtain ⟨p, hp, rfl⟩ := holds_mem hh
  unfold RankedTh at h
  rw [hw] at h
  cases r
  case up =>
    by_cases hll : p.1 = l'
    · exact Or.inr ⟨rfl, hll.symm, hll ▸ h.1⟩
    · exact Or.inl (h.2 p hp hll)
  all_goals exact Or.inl (h p hp)

/-- **No deadlock under a rank discipline**, for any number of threads and locks. -/
theorem no_deadlock_of_ranked (rank : Nat → Nat) (ths : List Th) (hr : Ranked rank ths)
    (hwf : Wf ths) : ¬ Deadlock ths := by
  rintro ⟨⟨t0, ht0, hunf0⟩, hall⟩
  -- the unfinished threads, with their indices
  let waiting := ths.zipIdx.filter fun (t, _) => finished t = false
  have hne : waiting ≠ [] := by
    obtain ⟨i, hi, hget⟩ := List.getElem_of_mem ht0
    have : (t0, i) ∈ ths.zipIdx := List.mem_zipIdx_iff_getElem?.mpr (by simp [hi, hget])
    exact List.ne_nil_of_mem (List.mem_filter.mpr ⟨this, by simpa using hunf0⟩)
  -- pick the one requesting the lock of greatest rank
  obtain ⟨⟨t, i⟩, hmem, hmax⟩ :=
    exists_max (fun p => (p.1.want.map fun w => rank w.1).getD 0) hne
  have hti : ths[i]? = some t := List.mem_zipIdx_iff_getElem?.mp (List.mem_filter.mp hmem).1
  have hunf : finished t = false := by simpa using (List.mem_filter.mp hmem).2
  obtain ⟨hwant, hblocked⟩ := hall i t hti hunf
  obtain ⟨⟨l, r⟩, hw⟩ := Option.isSome_iff_exists.mp hwant
  -- a thread holding `l` is unfinished, so it waits, on a lock ranked at most `rank l`: by the
  -- discipline it can only be upgrading `l` itself, which it holds upgradable
  have key : ∀ (j : Nat) (u : Th), ths[j]? = some u → holds u l = true →
      u.want = some (l, .up) ∧ holdsMode u l .ug = true ∧ grantable ths j = false := by
    intro j u hj hhu
    have hunfu := unfinished_of_holds hhu
    obtain ⟨hwu, hbu⟩ := hall j u hj hunfu
    obtain ⟨⟨l', r'⟩, hwu'⟩ := Option.isSome_iff_exists.mp hwu
    have hle : rank l' ≤ rank l := by
      have := hmax (u, j) (List.mem_filter.mpr ⟨List.mem_zipIdx_iff_getElem?.mpr hj, by simpa using hunfu⟩)
      simpa [hw, hwu'] using this
    rcases (hr u (List.mem_of_getElem? hj)).rank_lt hwu' hhu with hlt | ⟨rfl, rfl, hug⟩
    · omega
    · exact ⟨hwu', hug, hbu⟩
  rcases blocked_has_holder hti hw hblocked with ⟨j, u, hj, hji, hhu⟩ | ⟨rfl, hself⟩
  · -- `u` upgrades `l` and is blocked, by another holder `v` of `l`, who upgrades `l` too: but a
    -- lock is held upgradable by one thread at a time
    obtain ⟨hwu, hug, hbu⟩ := key j u hj hhu
    rcases blocked_has_holder hj hwu hbu with ⟨k, v, hk, hkj, hhv⟩ | ⟨h, _⟩
    · have := hwf j k u v l hj hk (fun e => hkj e.symm) hug
      rw [(key k v hk hhv).2.1] at this
      cases this
    · cases h
  · -- re-entrant shared request: by `key` it would be an upgrade
    cases (key i t hti hself).1.symm.trans hw

end KyroModel.Conc
